-- The root of the `H2` library: the driver, the bridge theorems and every property module, so that a plain
-- `lake build` builds (and so checks) the whole development.
import H2.Basic
import H2.Driver
import H2.Gen.Deps
import H2.Gen.Bridge.Init
import H2.Gen.Bridge.WindowConsumed
import H2.Gen.Bridge.WindowOpened
import H2.Gen.Bridge.MaybeUpdateWindow
import H2.Gen.Bridge.ProcessBytes
import H2.Gen.Bridge.ValidateSetting
import H2.Gen.Bridge.GuardIncrementWindow
import H2.Props.C01
import H2.Props.C02
import H2.Props.C03
import H2.Props.C04
import H2.Props.C05
import H2.Props.C06
import H2.Props.C07
import H2.Props.C08
import H2.Props.C09
import H2.Props.C10
import H2.Props.C11
import H2.Props.C12
import H2.Props.C13
import H2.Props.C14
import H2.Props.C15
import H2.Props.C16
import H2.Props.C17
import H2.Props.C18
import H2.Props.C19
import H2.Props.C20
import H2.Props.C21
import H2.Props.C22
import H2.Props.C23
import H2.Props.C24
import H2.Props.C25
import H2.Props.C26
import H2.Props.C27
import H2.Props.C28
import H2.Props.C29
