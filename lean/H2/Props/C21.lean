/-
  C21 — results do not depend on how bytes are split.

  `receiveData`, `FrameBuffer` and the loop are the hand-written model (tied to connection.py /
  frame_buffer.py by the correspondence check, which feeds every transfer in random chunkings).
-/
import H2.Proofs.RecvAppend

namespace H2.C21
open H2 H2.Gen H2.Conn H2.FrameBuffer

/-- `receive_data` chunk by chunk: events accumulate, the first error ends the run -/
def recvSeq (c : Conn) : List Bytes → Except Exc (List Event) × Conn
  | [] => (.ok [], c)
  | x :: xs =>
    match receiveData x c with
    | (.ok evs, c') =>
      (match recvSeq c' xs with
       | (.ok es, c'') => (.ok (evs ++ es), c'')
       | (.error e, c'') => (.error e, c''))
    | (.error e, c') => (.error e, c')

/-- **C21, two chunks**: feeding `a` and then `b` gives the events of feeding `a ++ b` in the
    same order and the same final state; if an error occurs it is the same exception (class, code, stream id,
    attached events) and the states agree in everything but the frame buffer — in particular the emitted bytes. -/
theorem C21_two (c : Conn) (a b : Bytes) (hpre : PreInv c.fb) :
    match receiveData a c with
    | (.error e, c1) => ∃ c', receiveData (a ++ b) c = (.error e, c') ∧ sameButFb c' c1
    | (.ok evs1, c1) => PreInv c1.fb ∧
      match receiveData b c1 with
      | (.ok evs2, c2) => receiveData (a ++ b) c = (.ok (evs1 ++ evs2), c2)
      | (.error e, c2) => ∃ c', receiveData (a ++ b) c = (.error e, c') ∧ sameButFb c' c2 := by
  rw [receiveData_eq a c, receiveData_eq (a ++ b) c, addData_append]
  cases ha : addData c.fb a with
  | error e => exact ⟨c, rfl, rfl⟩
  | ok fb1 =>
    simp only
    by_cases hp1 : fb1.preamble = []
    · -- the preface is complete: the loop runs on `a`, then goes on with `b`
      rw [addData_ready fb1 b hp1]
      simp only
      have hCm : startRecv c (fb1.more b) = (startRecv c fb1).moreFb b := rfl
      rw [hCm, loop_more]
      have hpre' : (loop [] (startRecv c fb1)).2.fb.preamble = [] := (recvLoop_pre _ _ _).trans hp1
      cases hl : loop [] (startRecv c fb1) with
      | mk r c1 =>
        rw [hl] at hpre'
        cases r with
        | error e =>
          simp only
          rw [finishRecv_more]
          obtain ⟨e', c', he⟩ := finishRecv_error e c1
          rw [he]
          exact ⟨c'.moreFb b, rfl, rfl⟩
        | ok evs1 =>
          have hmax : c1.fb.maxFrameSize = c1.maxInFrame :=
            (wp_result (recvLoop_max _ [] (startRecv c fb1) rfl)).1 evs1 c1 hl
          simp only [finishRecv]
          refine ⟨fun h => (h hpre').elim, ?_⟩
          rw [receiveData_ready b c1 hpre' hmax, loop_evs evs1]
          cases hl2 : loop [] (c1.moreFb b) with
          | mk r2 c2 =>
            cases r2 with
            | ok es => simp [finishRecv]
            | error e =>
              simp only
              obtain ⟨e', c', he⟩ := finishRecv_error e c2
              rw [he]
              exact ⟨c', he, rfl⟩
    · -- still inside the preface: nothing is buffered, nothing runs
      have hs : fb1.data = [] := addData_preInv ha hpre hp1
      rw [loop_empty [] (startRecv c fb1) hs, finishRecv]
      refine ⟨fun _ => hs, ?_⟩
      rw [receiveData_eq b (startRecv c fb1)]
      have hsm : (startRecv c fb1).fb = { fb1 with maxFrameSize := c.maxInFrame } := rfl
      rw [hsm, addData_setMax]
      cases hb : addData fb1 b with
      | error e => exact ⟨c, rfl, rfl⟩
      | ok fb2 =>
        simp only
        have : startRecv (startRecv c fb1) { fb2 with maxFrameSize := c.maxInFrame } = startRecv c fb2 := rfl
        rw [this]
        cases finishRecv (loop [] (startRecv c fb2)) with
        | mk r2 c2 =>
          cases r2 with
          | ok es => rfl
          | error e => exact ⟨c2, rfl, rfl⟩

/-- **C21, any chunking**: for every non-empty list of chunks (chunks may be empty, may split the preface or a
    frame anywhere), feeding them one by one gives what feeding their concatenation gives. -/
theorem C21_chunks (c : Conn) (hpre : PreInv c.fb) (x : Bytes) (xs : List Bytes) :
    match recvSeq c (x :: xs) with
    | (.ok evs, c1) => receiveData (x ++ xs.flatten) c = (.ok evs, c1)
    | (.error e, c1) => ∃ c', receiveData (x ++ xs.flatten) c = (.error e, c') ∧ sameButFb c' c1 := by
  induction xs generalizing x c with
  | nil =>
    simp only [recvSeq, List.flatten_nil, List.append_nil]
    cases receiveData x c with
    | mk r c1 =>
      cases r with
      | ok evs => simp
      | error e => exact ⟨c1, rfl, rfl⟩
  | cons y ys ih =>
    have h2 := C21_two c x (y ++ ys.flatten) hpre
    rw [recvSeq]
    simp only [List.flatten_cons]
    cases h1 : receiveData x c with
    | mk r c1 =>
      rw [h1] at h2
      cases r with
      | error e => exact h2
      | ok evs1 =>
        simp only at h2 ⊢
        obtain ⟨hp1, h2⟩ := h2
        have h3 := ih c1 hp1 y
        cases hs : recvSeq c1 (y :: ys) with
        | mk r2 c2 =>
          rw [hs] at h3
          cases r2 with
          | ok es => simp only at h3 ⊢; rw [h3] at h2; exact h2
          | error e =>
            simp only at h3 ⊢
            obtain ⟨c', h3, hs'⟩ := h3
            rw [h3] at h2
            obtain ⟨c'', h2, hs''⟩ := h2
            exact ⟨c'', h2, sameButFb_trans hs'' hs'⟩

/-- the emitted bytes are the same in both cases -/
theorem C21_chunks_out (c : Conn) (hpre : PreInv c.fb) (x : Bytes) (xs : List Bytes) :
    (recvSeq c (x :: xs)).2.out = (receiveData (x ++ xs.flatten) c).2.out := by
  have h := C21_chunks c hpre x xs
  cases hs : recvSeq c (x :: xs) with
  | mk r c1 =>
    rw [hs] at h
    cases r with
    | ok evs => simp only at h ⊢; rw [h]
    | error e =>
      simp only at h ⊢
      obtain ⟨c', h1, h2⟩ := h
      rw [h1]; exact (sameButFb_out h2).symm

/-- the hypothesis `PreInv` holds in every state the connection can be in: initially, `receive_data` keeps it
    (`C21_preinv_recv`), and no other call writes the frame buffer (`prims_fb`) -/
theorem C21_preinv_init (cfg : Config) : PreInv (Conn.init cfg).fb := by
  intro _
  cases hc : cfg.client <;> simp [Conn.init, FrameBuffer.init, hc]

theorem C21_preinv_recv (c : Conn) (d : Bytes) (hpre : PreInv c.fb) : PreInv (receiveData d c).2.fb := by
  refine receiveData_fb PreInv (fun _ _ _ ha h => addData_preInv ha h) (fun fb _ k h hne => ?_) (fun _ _ h => h) d c hpre
  -- nothing is buffered before the preface is complete, so the iterator has nothing to take
  show fb.data.drop k = []
  rw [h hne, List.drop_nil]

def drain (c : Conn) : List (Option Int) → List Bytes × Conn
  | [] => ([], c)
  | n :: ns =>
    match dataToSend n c with
    | (.ok b, c') => (b :: (drain c' ns).1, (drain c' ns).2)
    | (.error _, c') => ([], c')

/-- **C21, output**: any sequence of `data_to_send(amount)` calls (any integer amounts, Python slice semantics,
    `None` = everything) hands out consecutive pieces of the buffer: the pieces followed by what is left are
    exactly what one `data_to_send()` would have returned, and nothing else changes. -/
theorem C21_out (c : Conn) (ns : List (Option Int)) :
    (drain c ns).1.flatten ++ (drain c ns).2.out = c.out ∧ { (drain c ns).2 with out := [] } = { c with out := [] } := by
  induction ns generalizing c with
  | nil => exact ⟨by simp [drain], rfl⟩
  | cons n ns ih =>
    -- every call hands out a prefix of the buffer and keeps the rest
    have : ∃ j, dataToSend n c = (.ok (c.out.take j), { c with out := c.out.drop j }) := by
      cases n with
      | none => exact ⟨c.out.length, by rw [List.take_length, List.drop_length]; rfl⟩
      | some k => exact ⟨_, rfl⟩
    obtain ⟨j, hj⟩ := this
    have h := ih { c with out := c.out.drop j }
    simp only [drain, hj, List.flatten_cons, List.append_assoc]
    rw [h.1]
    exact ⟨List.take_append_drop j c.out, h.2⟩

/-- non-vacuity: a server that has been fed the first ten bytes of the client preface still satisfies `PreInv` -/
example : PreInv ((receiveData (Gen.preamble.take 10) (Conn.init { client := false })).2).fb :=
  C21_preinv_recv _ _ (C21_preinv_init _)

end H2.C21
