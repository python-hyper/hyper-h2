/-
  C10 — concurrent-stream limits are respected and enforced.
-/
import H2.Proofs.StreamLemmas

namespace H2.C10
open H2 H2.Gen H2.Conn

/-- the streams that count: open or half-closed (the generated `STREAM_OPEN` table), of the given parity -/
def counted (r : Int) (e : Int × Stream) : Bool := e.2.isOpen && e.1 % 2 == r

/-- reserved, idle and closed streams never count; open and half-closed ones do (generated table) -/
theorem C10_what_counts :
    streamOpen .RESERVED_LOCAL = false ∧ streamOpen .RESERVED_REMOTE = false ∧ streamOpen .IDLE = false ∧
    streamOpen .CLOSED = false ∧ streamOpen .OPEN = true ∧ streamOpen .HALF_CLOSED_LOCAL = true ∧
    streamOpen .HALF_CLOSED_REMOTE = true := by decide

/-- **open_outbound_streams / open_inbound_streams** return exactly the number of such streams; the call only
    forgets closed streams (every counted stream stays, nothing is added) -/
theorem C10_count (r : Int) (c : Conn) :
    wp (openStreams r)
      (fun n c' => n = (c.streams.filter (counted r)).length ∧ c'.streams.filter (counted r) = c.streams.filter (counted r) ∧
        (∀ e ∈ c'.streams, e ∈ c.streams) ∧ c'.out = c.out ∧ c'.sent = c.sent ∧ c'.highestOut = c.highestOut ∧
        c'.highestIn = c.highestIn ∧ c'.cstate = c.cstate)
      (fun _ _ => False) c := by
  rw [wp_openStreams_eq]
  refine ⟨rfl, ?_, ?_, rfl, rfl, rfl, rfl, rfl⟩
  · rw [List.filter_filter]
    apply List.filter_congr
    intro e _
    unfold counted
    cases (e.2.isOpen && e.1 % 2 == r) <;> simp
  · intro e he; exact (List.mem_filter.mp he).1

theorem hasStream_false_of_sub {c c' : Conn} {sid : Int} (hsub : ∀ e ∈ c'.streams, e ∈ c.streams)
    (h : hasStream c sid = false) : hasStream c' sid = false := by
  unfold hasStream at h ⊢
  rw [List.any_eq_false] at h ⊢
  exact fun e he => h e (hsub e he)

/-- **opening send**: a client's `send_headers` on a new stream id is refused with TooManyStreamsError, with nothing
    written and no stream created, when the streams it has open already reach the peer's MAX_CONCURRENT_STREAMS -/
theorem C10_out_refused (c : Conn) (sid : Int) (hs : List Header) (es : Bool) (hcl : c.cfg.client = true)
    (hnew : hasStream c sid = false)
    (hfull : ((c.streams.filter (counted 1)).length : Int) + 1 > c.remoteSettings.maxConcurrentStreams) :
    wp (sendHeaders sid hs es none none none) (fun _ _ => False)
      (fun e c' => e.isInstance .TooManyStreamsError = true ∧ c'.out = c.out ∧ c'.sent = c.sent ∧
        hasStream c' sid = false ∧ c'.highestOut = c.highestOut) c := by
  unfold sendHeaders sendHeadersTail addPriority openOutboundStreams
  wps
  simp only [Option.isSome_none, Bool.or_self, Bool.false_eq_true, if_false, hcl, Bool.not_true, hnew, if_true,
    Bool.not_false]
  refine wp_mono (C10_count 1 c) ?_ ?_
  · rintro n c' ⟨rfl, _, hsub, hout, hsent, hho, _⟩
    simp only [hfull, if_true]
    wps
    exact ⟨rfl, hout, hsent, hasStream_false_of_sub hsub hnew, hho⟩
  · intro e c' h; exact h.elim

/-- **peer HEADERS that would open a stream**: refused with TooManyStreamsError (a PROTOCOL_ERROR connection error)
    when the streams the peer has open already reach the acknowledged local MAX_CONCURRENT_STREAMS; otherwise the
    frame goes on to the normal HEADERS processing (`receiveHeadersRest`), i.e. is not refused for this reason -/
theorem C10_in_limit (c : Conn) (sid : Int) (block : Bytes) (es : Bool) (prio : Option Prio)
    (hnew : hasStream c sid = false) (hin : streamIdIsOutbound c sid = false) (hhi : sid > c.highestIn) :
    let r : Int := if c.cfg.client then 0 else 1
    let n : Int := (c.streams.filter (counted r)).length
    (n + 1 > c.localSettings.maxConcurrentStreams →
      wp (receiveHeadersFrame sid block es prio) (fun _ _ => False)
        (fun e c' => e.isInstance .TooManyStreamsError = true ∧ hasStream c' sid = false ∧ c'.sent = c.sent) c) ∧
    (n + 1 ≤ c.localSettings.maxConcurrentStreams →
      ∃ c1, (∀ e ∈ c1.streams, e ∈ c.streams) ∧ c1.streams.filter (counted r) = c.streams.filter (counted r) ∧
        receiveHeadersFrame sid block es prio c = receiveHeadersRest sid block es prio c1) := by
  intro r n
  constructor
  · intro hfull
    unfold receiveHeadersFrame openInboundStreams
    wps
    simp only [hnew, hin, hhi, Bool.not_false, Bool.and_self, decide_true, if_true]
    refine wp_mono (C10_count r c) ?_ ?_
    · rintro m c' ⟨rfl, _, hsub, _, hsent, _⟩
      simp only [n] at hfull
      simp only [hfull, if_true]
      wps
      exact ⟨rfl, hasStream_false_of_sub hsub hnew, hsent⟩
    · intro e c' h; exact h.elim
  · intro hroom
    -- `_open_streams` always returns
    have ho : openStreams r c = (.ok n, (openStreams r c).2) := rfl
    obtain ⟨-, hcount, hsub, -⟩ := (wp_result (C10_count r c)).1 _ _ ho
    refine ⟨_, hsub, hcount, ?_⟩
    unfold receiveHeadersFrame openInboundStreams
    simp only [bind, M.bind, getS, hnew, hin, hhi, Bool.not_false, Bool.and_self, decide_true, if_true]
    rw [show (if c.cfg.client = true then (0 : Int) else 1) = r from rfl, ho]
    simp only [show ¬ (n + 1 > c.localSettings.maxConcurrentStreams) by omega, if_false]

/-- **a HEADERS frame that does not open a stream is not counted**: for an id of this endpoint's own parity, or one at
    or below the highest id the peer has used (a stream that was closed and forgotten — say a response racing our
    RST_STREAM), the limit plays no part, however many streams are open (before the repair D48 such a frame raised
    TooManyStreamsError, a connection error, once the limit was reached) -/
theorem C10_closed_stream_not_counted (c : Conn) (sid : Int) (block : Bytes) (es : Bool) (prio : Option Prio)
    (hold : streamIdIsOutbound c sid = true ∨ sid ≤ c.highestIn) :
    receiveHeadersFrame sid block es prio c = receiveHeadersRest sid block es prio c := by
  unfold receiveHeadersFrame
  have hcond : (!hasStream c sid && !streamIdIsOutbound c sid && decide (sid > c.highestIn)) = false := by
    rcases hold with h | h
    · simp [h]
    · have : ¬ (sid > c.highestIn) := by omega
      simp [this]
  simp only [bind, M.bind, getS, hcond, Bool.false_eq_true, if_false]

/-- the limit is not enforced everywhere the RFC counts: a reserved (pushed) stream becomes half-closed — and is
    counted from then on — without any check (known finding D22).  Witness: RESERVED_LOCAL + SEND_HEADERS is a plain
    table transition into a counted state. -/
theorem C10_reserved_becomes_counted_witness :
    (stepShape { state := .RESERVED_LOCAL, client := some false, headersReceived := true } .SEND_HEADERS).2.state
      = .HALF_CLOSED_REMOTE ∧ streamOpen .HALF_CLOSED_REMOTE = true ∧ streamOpen .RESERVED_LOCAL = false := by decide

end H2.C10
