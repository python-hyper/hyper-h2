/-
  C18 — every connection error emits exactly one GOAWAY with the mandated code.

  Built on the receive-path invariant of C17 (Proofs/RecvTotal.lean) and on the history variable `Conn.sent`
  (every frame object that was serialised into the output buffer, in order).
-/
import H2.Proofs.RecvTotal
import H2.Props.C29

namespace H2.C18
open H2 H2.Gen H2.Conn

/-- the states the theorem speaks about: `C17.Inv`, written out again (holds initially, kept by `receive_data`) -/
def Inv (c : Conn) : Prop := WF c ∧ HbOk c.fb.headersBuffer

/-- **C18**: when `receive_data` raises, then — unless it is the invalid client preface, which is refused before
    anything is processed and leaves the connection object untouched — the frames written by this call are the
    replies to the frames before the offending one (`FramesOk`: SETTINGS ACK, PING ACK, RST_STREAM, WINDOW_UPDATE —
    never a GOAWAY) followed by exactly one GOAWAY, which is also the last thing in the output buffer.  Its error
    code is the exception's `error_code`, its last-stream-id is `highest_inbound_stream_id`, it carries no debug
    data, and the connection is CLOSED. -/
theorem C18_one_goaway (c : Conn) (data : Bytes) (h : Inv c) (e : Exc) (c' : Conn)
    (hr : receiveData data c = (.error e, c')) :
    (FrameBuffer.addData c.fb data = .error e ∧ c' = c) ∨
    (∃ fs k cls sid evs, FramesOk fs ∧ c'.sent = c.sent ++ fs ++ [Frame.goaway c'.highestIn k []] ∧
      e = .h2 cls (some k) sid evs ∧ cls.isSub .ProtocolError = true ∧ 0 ≤ k ∧ k < 4294967296 ∧
      c'.cstate = .CLOSED ∧
      ∃ pre b, (Frame.goaway c'.highestIn k []).serialize? = some b ∧ c'.out = pre ++ b) := by
  rcases (wp_result (receiveData_spec data c h.1 h.2)).2 e c' hr with
    h | ⟨⟨_, _, c1, ⟨fs, hfs, hok⟩, k, cls, sid, evs, hs, hrest⟩, _⟩
  · exact Or.inl h
  · exact Or.inr ⟨fs, k, cls, sid, evs, hok, by rw [hs, hfs], hrest⟩

/-- the preface exception: only a server that is still waiting for (part of) the client preface can refuse input
    without a GOAWAY -/
theorem C18_preface_only (c : Conn) (data : Bytes) (e : Exc) (h : FrameBuffer.addData c.fb data = .error e) :
    c.fb.preamble ≠ [] ∧ e = mkExc .ProtocolError := by
  refine ⟨?_, FrameBuffer.addData_error _ _ _ h⟩
  intro hp
  rw [FrameBuffer.addData_ready _ _ hp] at h
  simp at h

/-- a successful `receive_data` writes no GOAWAY at all -/
theorem C18_no_goaway_without_error (c : Conn) (data : Bytes) (h : Inv c) (evs : List Event) (c' : Conn)
    (hr : receiveData data c = (.ok evs, c')) : ∃ fs, FramesOk fs ∧ c'.sent = c.sent ++ fs := by
  obtain ⟨⟨_, fs, hfs, hok⟩, _⟩ := (wp_result (receiveData_spec data c h.1 h.2)).1 evs c' hr
  exact ⟨fs, hok, hfs⟩

/-- the code of each exception class (generated table `ExcClass.classCode`): size violations → FRAME_SIZE_ERROR, window
    violations → FLOW_CONTROL_ERROR, oversized header lists → ENHANCE_YOUR_CALM, frames on a closed stream →
    STREAM_CLOSED, everything else → PROTOCOL_ERROR -/
theorem C18_class_codes :
    ExcClass.FrameTooLargeError.classCode = some ErrorCodes.FRAME_SIZE_ERROR ∧
    ExcClass.FrameDataMissingError.classCode = some ErrorCodes.FRAME_SIZE_ERROR ∧
    ExcClass.FlowControlError.classCode = some ErrorCodes.FLOW_CONTROL_ERROR ∧
    ExcClass.DenialOfServiceError.classCode = some ErrorCodes.ENHANCE_YOUR_CALM ∧
    streamClosedErrorCode = ErrorCodes.STREAM_CLOSED ∧
    ExcClass.ProtocolError.classCode = some ErrorCodes.PROTOCOL_ERROR ∧
    ExcClass.TooManyStreamsError.classCode = some ErrorCodes.PROTOCOL_ERROR ∧
    ExcClass.InvalidBodyLengthError.classCode = some ErrorCodes.PROTOCOL_ERROR := by decide

/-- the frame iterator classifies size violations: a frame longer than the limit raises FrameTooLargeError (a
    FRAME_SIZE_ERROR by `C18_class_codes`) -/
theorem C18_frame_size (fb : FrameBuffer) (h : FrameHeader) (h9 : ¬ fb.data.length < 9)
    (hh : parseFrameHeader (fb.data.take 9) = .ok h) (hlen : ¬ fb.data.length < h.length + 9)
    (hbig : (h.length : Int) > fb.maxFrameSize) :
    FrameBuffer.next1 fb = (.error (mkExc .FrameTooLargeError), fb) := by
  rw [FrameBuffer.next1_eq]
  unfold FrameBuffer.peel
  rw [if_neg h9, hh]
  dsimp only
  rw [if_neg hlen, if_pos hbig]

/-- the full RFC table does not hold: a header block the HPACK decoder rejects is reported as PROTOCOL_ERROR where
    RFC 7540 section 4.3 demands COMPRESSION_ERROR (known finding D10a; four existing tests pin PROTOCOL_ERROR) -/
theorem C18_compression_error_witness (c : Conn) (rest : List DecRes) (block : Bytes)
    (h : c.hp.decOracle = .hpackError :: rest) :
    ∃ c', decodeHeaders block c = (.error (.h2 .ProtocolError (some ErrorCodes.PROTOCOL_ERROR) none []), c') := by
  unfold decodeHeaders
  simp only [bind, M.bind, zoom, Hp.decode, h]
  exact ⟨_, rfl⟩

/-- the invariant is the one every reachable state of the connection satisfies (C29) -/
theorem inv_of_reachable (cfg : Config) (c : Conn) (h : C29.Reachable cfg c) (dec : List DecRes)
    (hd : C17.DecResOk dec) : Inv (C17.feed c [] dec) :=
  C17.C17_feed c [] dec (C29.C29_reachable_invariant cfg c h).1 hd

/-- **C18 for every history**: after any sequence of public calls and deliveries, whatever the HPACK decoder will
    answer and whatever bytes arrive, a `receive_data` that raises has written — after the replies to the frames
    before the offending one, none of which is a GOAWAY — exactly one GOAWAY, last in the output buffer, with the
    exception's error code and `highest_inbound_stream_id`; or it is the refused client preface and nothing changed.
    A `receive_data` that returns has written no GOAWAY. -/
theorem C18_every_history (cfg : Config) (c : Conn) (h : C29.Reachable cfg c) (dec : List DecRes)
    (hd : C17.DecResOk dec) (data : Bytes) :
    (∀ e c', receiveData data (C17.feed c [] dec) = (.error e, c') →
      (FrameBuffer.addData (C17.feed c [] dec).fb data = .error e ∧ c' = C17.feed c [] dec) ∨
      (∃ fs k cls sid evs, FramesOk fs ∧
        c'.sent = (C17.feed c [] dec).sent ++ fs ++ [Frame.goaway c'.highestIn k []] ∧
        e = .h2 cls (some k) sid evs ∧ cls.isSub .ProtocolError = true ∧ 0 ≤ k ∧ k < 4294967296 ∧
        c'.cstate = .CLOSED ∧
        ∃ pre b, (Frame.goaway c'.highestIn k []).serialize? = some b ∧ c'.out = pre ++ b)) ∧
    (∀ evs c', receiveData data (C17.feed c [] dec) = (.ok evs, c') →
      ∃ fs, FramesOk fs ∧ c'.sent = (C17.feed c [] dec).sent ++ fs) :=
  ⟨fun e c' hr => C18_one_goaway _ data (inv_of_reachable cfg c h dec hd) e c' hr,
   fun evs c' hr => C18_no_goaway_without_error _ data (inv_of_reachable cfg c h dec hd) evs c' hr⟩

/-- non-vacuity: a fresh server satisfies the invariant -/
example : Inv (Conn.init { client := false }) := C17.C17_init _

end H2.C18
