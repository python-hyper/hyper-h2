/-
  C11 — settings take effect exactly when acknowledged, one frame per ACK, in order.

  Proved of the model, for every state and argument:
   * the `Settings` object is one FIFO queue per setting (`C11_append_queue`, `C11_acknowledge_queue`,
     `C11_acknowledge_reports`), and a queued value is not the current value (`C11_not_enforced_before_ack`);
   * `update_settings`: a call that raises changes nothing but, when it is the connection state machine that refuses,
     that machine's state; one that returns queues exactly its values and writes exactly one SETTINGS frame carrying
     them (`C11_update_settings`);
   * a received SETTINGS frame is applied at once, reported once with (old, new) per setting, answered by exactly one
     ACK (`C11_settings_received`); a received ACK produces exactly one SettingsAcknowledged reporting what was popped,
     and the popped values are in force from then on (`C11_ack_received`).
  NOT true of the code, and proved so: acknowledgements are matched per setting, not per SETTINGS frame
  (`C11_ack_matching_witness`, known finding D8 — the pinned test suite relies on that behaviour, so it is recorded,
  not repaired).  With at most one SETTINGS frame outstanding the two notions coincide.
-/
import H2.Proofs.ApiOk
namespace H2.C11
open H2 H2.Gen H2.Conn

/-! ### the Settings object: one queue of values per setting -/

/-- the values of setting `k`: current value first (None: no current value), then the values waiting to be acknowledged -/
def queue (s : Settings) (k : Int) : List (Option Int) := (s.lookup k).getD []

/-- all the values of one validated SETTINGS frame appended in order -/
def appendAll (s : Settings) (items : List (Int × Int)) : Settings := items.foldl (fun s kv => Settings.append s kv.1 kv.2) s

theorem lookup_map_key (s : Settings) (k j : Int) (f : List (Option Int) → List (Option Int)) :
    (s.map fun e => if e.1 == k then (e.1, f e.2) else e).lookup j = if j = k then (s.lookup j).map f else s.lookup j := by
  rw [lookup_map_fst _ _ (fun e => by split <;> rfl)]
  by_cases hj : j = k
  · subst hj
    simp only [beq_self_eq_true, if_true]
  · have hb : (j == k) = false := by simpa using hj
    simp only [hb, Bool.false_eq_true, if_false, hj]
    exact Option.map_id'

/-- **`__setitem__` puts the value at the end of its own setting's queue** and touches no other setting -/
theorem C11_append_queue (s : Settings) (k v j : Int) :
    queue (Settings.append s k v) j =
      if j = k then (if (s.lookup k).isSome then queue s k ++ [some v] else [none, some v]) else queue s j := by
  unfold Settings.append queue
  rw [any_key_lookup]
  split
  · -- `k` has a queue already: `append` maps over the table
    rename_i h
    rw [lookup_map_key s k j (· ++ [some v])]
    split
    · rename_i hj
      subst hj
      obtain ⟨q, hq⟩ := Option.isSome_iff_exists.mp h
      rw [hq]; rfl
    · rfl
  · -- `k` is new: its entry goes to the end of the table
    rename_i h
    rw [List.lookup_append, List.lookup_cons, List.lookup_nil]
    by_cases hj : j = k
    · subst hj
      rw [Option.not_isSome_iff_eq_none.mp h, beq_self_eq_true, if_pos rfl]
      rfl
    · have hb : (j == k) = false := by simpa using hj
      rw [hb, if_neg hj]
      cases s.lookup j <;> rfl

/-- **`acknowledge()` pops the oldest waiting value of every setting that has one** (per setting, not per frame) and
    reports it with the value it replaces -/
theorem C11_acknowledge_queue (s : Settings) (j : Int) :
    queue (Settings.acknowledge s).2 j =
      (match queue s j with
       | _ :: rest@(_ :: _) => rest
       | q => q) := by
  rw [acknowledge_snd]
  unfold queue
  rw [lookup_map_fst _ _ popEntry_fst]
  cases s.lookup j with
  | none => rfl
  | some l => rcases l with _ | ⟨_, _ | _⟩ <;> rfl

theorem C11_acknowledge_reports (s : Settings) (k : Int) (old : Option Int) (new : Int) :
    (k, old, new) ∈ (Settings.acknowledge s).1 ↔ ∃ rest, (k, old :: some new :: rest) ∈ s :=
  mem_acknowledge s k old new

/-! ### `update_settings` -/

/-- `c'` is `c` but for the state of the connection state machine -/
def sameButState (c c' : Conn) : Prop := c' = { c with cstate := c'.cstate }

/-- **an `update_settings` call that raises changes nothing** (the state machine apart, when it is the one that refuses);
    one that returns has queued exactly the given values, in order, and written exactly one SETTINGS frame carrying them -/
theorem C11_update_settings (items : List (Int × Int)) (c : Conn) :
    wp (updateSettings items)
      (fun _ c' => c'.localSettings = appendAll c.localSettings items ∧
          c'.sent = c.sent ++ [Frame.settings false items] ∧
          c'.remoteSettings = c.remoteSettings ∧ c'.maxInFrame = c.maxInFrame ∧ c'.inWM = c.inWM ∧
          c'.streams = c.streams ∧ c'.hp = c.hp)
      (fun _ c' => sameButState c c') c :=
  wp_mono (updateSettings_spec items c) (fun _ c' ⟨t, o, h⟩ => by rw [h]; exact ⟨rfl, rfl, rfl, rfl, rfl, rfl, rfl⟩)
    fun _ _ h => h.2

theorem getItem?_queue (s : Settings) (k : Int) : Settings.getItem? s k = headVal (queue s k) := by
  unfold Settings.getItem? queue headVal
  cases s.lookup k with
  | none => rfl
  | some q => rcases q with _ | ⟨_ | _, _⟩ <;> rfl

/-- a value that is only queued is not the current value: appending to a setting that has a current value leaves every
    current value as it was (so nothing is enforced before the acknowledgement) -/
theorem C11_not_enforced_before_ack (s : Settings) (k v j : Int) (hne : ∀ q, s.lookup k = some q → q ≠ []) :
    Settings.getItem? (Settings.append s k v) j = Settings.getItem? s j := by
  rw [getItem?_queue, getItem?_queue, C11_append_queue]
  split
  · rename_i hj
    subst hj
    unfold queue
    cases hl : s.lookup j with
    | none => rfl
    | some q => exact headVal_append q _ (hne q hl)
  · rfl

/-! ### an acknowledgement arrives -/

theorem localOtherChanges_fields (ch : List (Int × Option Int × Int)) (c : Conn) :
    (localOtherChanges ch c).localSettings = c.localSettings ∧ (localOtherChanges ch c).remoteSettings = c.remoteSettings ∧
    (localOtherChanges ch c).sent = c.sent ∧ (localOtherChanges ch c).out = c.out ∧
    (localOtherChanges ch c).maxInFrame =
      (match findChange ch SettingCodes.MAX_FRAME_SIZE with | some (_, new) => new | none => c.maxInFrame) := by
  rw [localOtherChanges_eq]
  exact ⟨rfl, rfl, rfl, rfl, rfl⟩

/-- **SETTINGS ACK**: exactly one SettingsAcknowledged, reporting exactly what `acknowledge()` popped; the popped values
    are the current ones from now on, the frame size limit for received frames follows at once, nothing is written -/
theorem C11_ack_received (items : List (Int × Int)) (c : Conn) :
    wp (receiveSettingsFrame true items)
      (fun r c' => r = ([], [Event.SettingsAcknowledged (Settings.acknowledge c.localSettings).1]) ∧
          c'.localSettings = (Settings.acknowledge c.localSettings).2 ∧
          c'.remoteSettings = c.remoteSettings ∧ c'.sent = c.sent ∧ c'.out = c.out ∧
          c'.maxInFrame = (match findChange (Settings.acknowledge c.localSettings).1 SettingCodes.MAX_FRAME_SIZE with
                           | some (_, new) => new | none => c.maxInFrame))
      (fun _ c' => c'.sent = c.sent ∧ c'.out = c.out ∧ c'.remoteSettings = c.remoteSettings) c := by
  unfold receiveSettingsFrame
  wps
  rw [wp_connInput_eq]
  split
  next t _ =>
    simp only [if_true]
    unfold localSettingsAcked
    wps
    -- between the two assignments only the stream table is written
    refine (Keeps.localWindowChange_of (P := fun c1 => ∃ ss, c1 =
        { c with cstate := t, localSettings := (Settings.acknowledge c.localSettings).2, streams := ss })
      (fun _ x ⟨_, h⟩ => ⟨x, by rw [h]⟩) _).cps _ ⟨c.streams, rfl⟩ ?_ ?_
    · rintro _ _ ⟨ss, rfl⟩
      wps
      exact ⟨trivial, localOtherChanges_fields _ _⟩
    · rintro _ _ ⟨ss, rfl⟩
      exact ⟨rfl, rfl, rfl⟩
  · exact ⟨rfl, rfl, rfl⟩

/-! ### a SETTINGS frame arrives -/

theorem remoteOtherChanges_fields (ch : List (Int × Option Int × Int)) (c : Conn) :
    (remoteOtherChanges ch c).remoteSettings = c.remoteSettings ∧ (remoteOtherChanges ch c).localSettings = c.localSettings ∧
    (remoteOtherChanges ch c).sent = c.sent ∧
    (remoteOtherChanges ch c).maxOutFrame =
      (match findChange ch SettingCodes.MAX_FRAME_SIZE with | some (_, new) => new | none => c.maxOutFrame) := by
  rw [remoteOtherChanges_eq]
  exact ⟨rfl, rfl, rfl, rfl⟩

/-- `_acknowledge_settings`: the oldest waiting value of every setting of the peer comes into force, the frame size
    limit for frames we send follows, one ACK frame is handed back -/
theorem acknowledgeSettings_spec (c : Conn) :
    wp acknowledgeSettings
      (fun fs c' => fs = [Frame.settings true []] ∧
        c'.remoteSettings = (Settings.acknowledge c.remoteSettings).2 ∧ c'.localSettings = c.localSettings ∧
        c'.sent = c.sent ∧
        c'.maxOutFrame = (match findChange (Settings.acknowledge c.remoteSettings).1 SettingCodes.MAX_FRAME_SIZE with
                          | some (_, new) => new | none => c.maxOutFrame))
      (fun _ c' => c'.sent = c.sent ∧ c'.localSettings = c.localSettings) c := by
  unfold acknowledgeSettings
  wps
  rw [wp_connInput_eq]
  split
  next t _ =>
    wps
    -- between the two assignments only the stream table is written
    refine (Keeps.remoteWindowChange_of (P := fun c1 => ∃ ss, c1 =
        { c with cstate := t, remoteSettings := (Settings.acknowledge c.remoteSettings).2, streams := ss })
      (fun _ x ⟨_, h⟩ => ⟨x, by rw [h]⟩) _).cps _ ⟨c.streams, rfl⟩ ?_ ?_
    · rintro _ _ ⟨ss, rfl⟩
      wps
      obtain ⟨h1, h2, h3, h4⟩ := remoteOtherChanges_fields (Settings.acknowledge c.remoteSettings).1
        { c with cstate := t, remoteSettings := (Settings.acknowledge c.remoteSettings).2, streams := ss }
      exact ⟨trivial, h1, h2, h3, h4⟩
    · rintro _ _ ⟨ss, rfl⟩
      exact ⟨rfl, rfl⟩
  · exact ⟨rfl, rfl⟩

/-- **a received SETTINGS frame** is applied at once (queued, then acknowledged in the same call), reported by exactly
    one RemoteSettingsChanged carrying every (setting, old, new) of the frame, and answered by exactly one ACK frame;
    the frame size limit for frames we send follows at once -/
theorem C11_settings_received (items : List (Int × Int)) (c : Conn) :
    wp (receiveSettingsFrame false items)
      (fun r c' =>
        let queued := (Settings.update c.remoteSettings items).2
        r.1 = [Frame.settings true []] ∧
        r.2 = [Event.RemoteSettingsChanged (items.map fun kv => (kv.1, queued.getItem? kv.1, kv.2))] ∧
        c'.remoteSettings = (Settings.acknowledge queued).2 ∧ c'.localSettings = c.localSettings ∧
        c'.sent = c.sent ∧
        c'.maxOutFrame = (match findChange (Settings.acknowledge queued).1 SettingCodes.MAX_FRAME_SIZE with
                          | some (_, new) => new | none => c.maxOutFrame))
      (fun _ c' => c'.sent = c.sent ∧ c'.localSettings = c.localSettings) c := by
  unfold receiveSettingsFrame
  wps
  rw [wp_connInput_eq]
  split
  next t _ =>
    simp only [Bool.false_eq_true, if_false]
    wps
    cases hU : Settings.update c.remoteSettings items with
    | mk r s' =>
      cases r with
      | error e => simp only; wps; exact ⟨trivial, trivial⟩
      | ok u =>
        simp only
        wps
        exact wp_mono (acknowledgeSettings_spec _) (fun _ _ h => ⟨h.1, rfl, h.2⟩) fun _ _ h => h
  · exact ⟨rfl, rfl⟩

/-! ### D8: acknowledgements are matched per setting, not per SETTINGS frame -/

/-- the state of a client that has sent its initial SETTINGS and then `update_settings({INITIAL_WINDOW_SIZE: 100})`,
    both still unacknowledged -/
def twoInFlight : Conn :=
  (updateSettings [((SettingCodes.INITIAL_WINDOW_SIZE : Nat), 100)] (initiateConnection (Conn.init { client := true })).2).2

/-- what a received ACK reports, and the INITIAL_WINDOW_SIZE in force afterwards -/
def ackReport (c : Conn) : Option (List (Int × Option Int × Int) × Option Int) :=
  match receiveSettingsFrame true [] c with
  | (.ok (_, [Event.SettingsAcknowledged ch]), c') => some (ch, c'.localSettings.initialWindowSize)
  | _ => none

/-- **the property is false of the code as it is**: the peer's first ACK answers the initial frame, yet it already
    applies and reports the value carried by the second frame (known finding D8) -/
theorem C11_ack_matching_witness :
    ackReport twoInFlight = some ([(((SettingCodes.INITIAL_WINDOW_SIZE : Nat) : Int), some 65535, 100)], some 100) := by
  decide +kernel

end H2.C11
