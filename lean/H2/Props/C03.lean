/-
  C03 — outbound DATA never exceeds the peer's flow-control windows.

  What one `send_data` call does (the query, the refusal, the ledger `C03_send_data_ledger`, the stream's part
  `C03_stream_send`); `CW`, the connection's outbound window stays within 0 .. 2^31-1 along every history; a stream's
  window never passes 2^31-1, method by method (from Proofs/StreamWin).  `guard_increment_window` is the reference
  definition of Gen/Windows, proved equal on every run to the function regenerated from utilities.py (Gen/Bridge);
  `send_data` and the window bookkeeping are the hand model.
-/
import H2.Proofs.PairCredit
-- the credit equation of one window between two endpoints, everything in flight (arithmetic of windows.py + C03/C04/C11)
-- @also H2.PairCredit.data_never_overruns
import H2.Proofs.History
import H2.Proofs.StreamWin

namespace H2.C03
open H2 H2.Gen H2.Conn

/-- flow-controlled length of a `send_data` call: padding counts (pad length byte included) -/
def fcLen (data : Bytes) (pad : Option Int) : Int := data.length + (match pad with | some p => p + 1 | none => 0)

theorem wp_localFlowControlWindow {Q : Int → Conn → Prop} {E : Exc → Conn → Prop} (c : Conn) (sid : Int) (st : Stream)
    (h : c.streams.lookup sid = some st) :
    wp (localFlowControlWindow sid) Q E c = Q (min c.outWin st.outWin) c :=
  wp_readStream sid (fun c st => min c.outWin st.outWin) c st h

/-- **query**: `local_flow_control_window` reports the smaller of the connection and the stream window -/
theorem C03_query (c : Conn) (sid : Int) (st : Stream) (h : c.streams.lookup sid = some st) :
    wp (localFlowControlWindow sid) (fun v c' => v = min c.outWin st.outWin ∧ c' = c) (fun _ _ => False) c := by
  rw [wp_localFlowControlWindow c sid st h]
  exact ⟨rfl, rfl⟩

/-- **one byte more is refused, atomically**: a `send_data` whose flow-controlled length exceeds the reported window
    raises FlowControlError and changes nothing (so emits nothing) -/
theorem C03_refuse (c : Conn) (sid : Int) (st : Stream) (data : Bytes) (es : Bool) (pad : Option Int)
    (h : c.streams.lookup sid = some st) (hpad : ∀ p, pad = some p → 0 ≤ p ∧ p ≤ 255)
    (hbig : fcLen data pad > min c.outWin st.outWin) :
    wp (sendData sid data es pad) (fun _ _ => False)
      (fun e c' => c' = c ∧ e.isInstance .FlowControlError = true) c := by
  refine wp_sendData_rule sid data es pad c (fun _ => ?_) fun p hp hr => absurd (hpad p hp) (by omega)
  unfold sendDataCore
  rw [wp_bind, wp_localFlowControlWindow c sid st h, wp_bind, wp_getS, wp_ite, if_pos (by rw [fclOf_eq]; exact hbig)]
  exact ⟨rfl, by decide⟩

/-- **what a `send_data` call does to the ledger**, any state, any arguments: if it returns, it has written exactly
    one DATA frame with the call's data, END_STREAM flag and padding (on which stream is not said), its flow-controlled
    length fitted both windows, and the connection window went down by exactly that length; if it raises, it has
    written nothing and the connection window is what it was.  Either way the inbound window manager is untouched. -/
theorem C03_send_data_ledger (c : Conn) (sid : Int) (data : Bytes) (es : Bool) (pad : Option Int) :
    wp (sendData sid data es pad)
      (fun _ c' => (∃ fsid, c'.sent = c.sent ++ [Frame.data fsid data es pad]) ∧
          fclOf data pad ≤ c.outWin ∧ c'.outWin = c.outWin - fclOf data pad ∧ c'.inWM = c.inWM ∧
          (∀ st, c.streams.lookup sid = some st → fclOf data pad ≤ st.outWin))
      (fun _ c' => c'.sent = c.sent ∧ c'.outWin = c.outWin ∧ c'.inWM = c.inWM) c :=
  wp_sendData_rule sid data es pad c
    (fun hp => wp_mono (sendDataCore_spec sid data es pad c hp) (fun _ _ h => h)
      fun _ _ h => ⟨congrArg Prod.snd h.2.1, h.2.2⟩)
    fun _ _ _ => ⟨rfl, rfl, rfl⟩

/-- the stream-level bookkeeping: whenever `H2Stream.send_data` returns, the stream window went down by exactly the
    flow-controlled length and is not negative (the method's `assert`), the DATA frame carries exactly the call's
    data, END_STREAM and padding, and the inbound window manager is untouched.  Nothing is said of a call that raises. -/
theorem C03_stream_send (st : Stream) (data : Bytes) (es : Bool) (pad : Option Int) :
    wp (Stream.sendData data es pad)
      (fun frames st' => frames = [Frame.data st.sm.sid data es pad] ∧ st'.outWin = st.outWin - fcLen data pad ∧
                         0 ≤ st'.outWin ∧ st'.inWM = st.inWM)
      (fun _ _ => True) st :=
  wp_mono (stream_sendData_spec data es pad st _ rfl) (fun _ _ h => h) fun _ _ _ => trivial

/-- a connection-level WINDOW_UPDATE adds exactly its increment to the connection window (negative windows after a
    settings decrease included) and touches nothing else -/
theorem C03_conn_window_update (c : Conn) (incr : Int) (hopen : c.cstate ≠ .CLOSED)
    (hfit : c.outWin + incr ≤ 2147483647) :
    wp (receiveWindowUpdateFrame 0 incr)
      (fun r c' => c' = { c with outWin := c.outWin + incr } ∧ r = ([], [Event.WindowUpdated 0 (some incr)]))
      (fun _ _ => False) c := by
  rw [wp_receiveWindowUpdateFrame_conn c incr _ (connTable_live hopen _), guard_increment_window_eq,
    if_neg (Int.not_lt.mpr hfit)]
  exact ⟨rfl, rfl⟩

/-! ### along every history

  Two things write the connection's outbound window: `send_data` subtracts the flow-controlled length after checking
  it against the window, and the WINDOW_UPDATE handler adds the increment through `guard_increment_window`.  The
  increment is at least 1 only because hyperframe's parser rejects the others, so the predicate is stable for parsed
  frames (`StableV`) and not for arbitrary ones. -/

/-- the connection's outbound window is a flow-control window -/
def CW (c : Conn) : Prop := 0 ≤ c.outWin ∧ c.outWin ≤ 2147483647

/-- no building block writes the connection window -/
theorem prims_CW : ApiPrims CW := {}

/-- `send_data` charges a length that is not negative and that the window admitted -/
theorem cw_sendData (sid : Int) (d : Bytes) (es : Bool) (pad : Option Int) : H2.Keeps CW (sendData sid d es pad) :=
  ⟨fun c h => wp_sendData_rule sid d es pad c
    (fun hp => by
      have h0 : 0 ≤ fclOf d pad := by
        unfold fclOf
        split
        · have := hp _ rfl; omega
        · omega
      refine wp_mono (sendDataCore_spec sid d es pad c hp) (fun _ c' h' => ?_) fun _ c' h' => ?_
      · unfold CW at h ⊢; omega
      · unfold CW; rw [h'.2.2.1]; exact h)
    fun _ _ _ => h⟩

/-- `receive_data` keeps it for every byte string (a WINDOW_UPDATE increment is at least 1 because the frame parser
    rejects the others; the sum is checked against 2^31-1 by `guard_increment_window`) -/
theorem cw_receiveData (d : Bytes) (c : Conn) (h : CW c) (hh : HbOk c.fb.headersBuffer) :
    CW (receiveData d c).2 := by
  refine stableV_receiveData (prims_CW.stableV (fun _ _ h => h) fun incr hi c w hg h => ?_) d c h hh
  obtain ⟨rfl, hle⟩ := guard_increment_window_ok hg
  unfold CW at h
  exact ⟨by show 0 ≤ c.outWin + incr; omega, hle⟩

/-- **the connection's outbound window never goes negative (and never passes 2^31-1)**, in every state reachable from a
    fresh connection by any public calls and any received bytes: whatever was sent so far was covered by the initial
    65535 octets plus the peer's WINDOW_UPDATE frames -/
theorem C03_conn_window_every_history (cfg : Config) (c : Conn) (h : C29.Reachable cfg c) :
    0 ≤ c.outWin ∧ c.outWin ≤ 2147483647 := by
  refine every_history (prims_CW.callsKeep cw_sendData) (fun d c hi h => cw_receiveData d c h hi.1.2)
    (fun _ _ h => h) cfg ?_ c h
  cases hc : cfg.client <;> simp [CW, Conn.init, hc, client_init_out_window, server_init_out_window]

/-! ### a stream's window never exceeds 2^31-1 (RFC 7540 section 6.9.1), method by method -/

/-- `H2Stream.send_data` (pad length not negative, which `H2Connection.send_data` checks first) keeps the bound -/
theorem C03_stream_send_data_keeps_bound (d : Bytes) (es : Bool) (pad : Option Int) (hp : ∀ p, pad = some p → 0 ≤ p) :
    KeepsLe (Stream.sendData d es pad) :=
  (prims_SWk.sendData d es pad fun st h => by
    unfold SWk at h ⊢
    show st.outWin - _ ≤ _
    split
    · have := hp _ rfl; omega
    · omega).run

/-- `H2Stream.receive_window_update` keeps it: the sum goes through `guard_increment_window`, an overflow resets the
    stream and leaves the window alone -/
theorem C03_stream_window_update_keeps_bound (n : Int) : KeepsLe (Stream.receiveWindowUpdate n) :=
  (prims_SWk.receiveWindowUpdate n fun _ _ hg _ => (guard_increment_window_ok hg).2).run

/-- a change of the peer's INITIAL_WINDOW_SIZE keeps it for every stream of the table, also when the loop stops at an
    overflow -/
theorem C03_settings_delta_keeps_bound (o n : Int) (c : Conn) (h : ∀ e ∈ c.streams, SWk e.2) :
    ∀ e ∈ (flowControlChangeFromSettings o n c).2.streams, SWk e.2 :=
  (fcc_go_all (fun e => SWk e.2) (n - o) (fun _ _ _ hg _ => (guard_increment_window_ok hg).2) [] c.streams h).1

/-- none of the other stream methods walked in Proofs/Keeps writes the window at all (`Stream.sendHeaders` and
    `Stream.pushStreamInBand`, which run on the stream together with the HPACK context, are not among them) -/
theorem C03_other_stream_methods_leave_window :
    (∀ cfg hs es, KeepsOW (Stream.receiveHeaders cfg hs es)) ∧ (∀ d es fcl, KeepsOW (Stream.receiveData d es fcl)) ∧
    (∀ cfg p hs, KeepsOW (Stream.receivePushPromiseInBand cfg p hs)) ∧ (∀ hs, KeepsOW (Stream.remotelyPushed hs)) ∧
    (∀ code, KeepsOW (Stream.streamReset code)) ∧ (∀ o f, KeepsOW (Stream.receiveAltSvc o f)) ∧
    (∀ d, KeepsOW (Stream.inboundFlowControlChange d)) ∧ KeepsOW Stream.endStream ∧ (∀ f, KeepsOW (Stream.advertiseAltSvc f)) ∧
    (∀ n, KeepsOW (Stream.increaseFlowControlWindow n)) ∧ (∀ n, KeepsOW (Stream.acknowledgeReceivedData n)) ∧
    KeepsOW Stream.locallyPushed ∧ (∀ cl, KeepsOW (Stream.upgrade cl)) ∧ (∀ code, KeepsOW (Stream.resetStream code)) :=
  have p := prims_outWin
  ⟨fun a b c => Keeps.field fun v => (p v).receiveHeaders a b c, fun a b c => Keeps.field fun v => (p v).receiveData a b c,
   fun a b c => Keeps.field fun v => (p v).receivePushPromiseInBand a b c, fun a => Keeps.field fun v => (p v).remotelyPushed a,
   fun a => Keeps.field fun v => (p v).streamReset a, fun a b => Keeps.field fun v => (p v).receiveAltSvc a b,
   fun a => Keeps.field fun v => (p v).inboundFlowControlChange a, Keeps.field fun v => (p v).endStream,
   fun a => Keeps.field fun v => (p v).advertiseAltSvc a, fun a => Keeps.field fun v => (p v).increaseFlowControlWindow a,
   fun a => Keeps.field fun v => (p v).acknowledgeReceivedData a, Keeps.field fun v => (p v).locallyPushed,
   fun a => Keeps.field fun v => (p v).upgrade a, fun a => Keeps.field fun v => (p v).resetStream a⟩

/-- padding counts with its length byte -/
example : fcLen [1, 2, 3] (some 5) = 9 ∧ fcLen [1, 2, 3] none = 3 := by decide

end H2.C03
