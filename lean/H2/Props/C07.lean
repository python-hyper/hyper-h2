/-
  C07 — received events per stream follow the HTTP message grammar for the role.

  Shape-level statements are decided over the regenerated transition table, for well-formed
  shapes (`Good sh` is a premise, see Proofs/Shapes); the related-event statements are about
  the stream methods of the hand model.
-/
import H2.Proofs.RecvStream

namespace H2.C07
open H2 H2.Gen

/-- the events a state-machine step hands back (on a raise: the events attached to the exception) -/
def evs (sh : Shape) (i : StreamInputs) : List SEv :=
  match (stepShape sh i).1 with
  | .ok l => l
  | .streamClosed true => [.StreamReset]
  | _ => []

def isMessageEvent (e : SEv) : Bool :=
  e == .RequestReceived || e == .ResponseReceived || e == .InformationalResponseReceived || e == .DataReceived ||
  e == .TrailersReceived || e == .StreamEnded || e == .PushedStreamReceived

/-- what an event says about the step that reports it, `sh` being the shape before and `sh'` the shape after:
    nothing is reported on a closed stream, no message event once the receive side is finished, and each
    event has its own condition on role, flags or target state -/
def evRule (sh sh' : Shape) (e : SEv) : Bool :=
  sh.state != .CLOSED && (!isMessageEvent e || sh.state != .HALF_CLOSED_REMOTE) &&
  match e with
  | .RequestReceived => !sh.headersReceived && sh'.client == some false
  | .ResponseReceived | .InformationalResponseReceived => !sh.headersReceived && sh'.client == some true
  | .PushedStreamReceived => sh'.client == some true
  | .DataReceived => sh.headersReceived
  | .TrailersReceived => sh.headersReceived && !sh.trailersReceived
  | .StreamEnded => sh'.state == .HALF_CLOSED_REMOTE || sh'.state == .CLOSED
  | .StreamReset => sh'.state == .CLOSED
  | _ => true

/-- the one sweep over the table: every event a well-formed shape reports obeys its rule.  The property
    theorems below take each of their clauses from the rule of the event it mentions (`clause`). -/
theorem event_rules : ∀ sh i, (!Good sh || (evs sh i).all (evRule sh (stepShape sh i).2)) = true :=
  forall_good_input (by decide +kernel)

theorem rule_of_mem {sh : Shape} {i : StreamInputs} {e : SEv} (hg : Good sh = true) (he : e ∈ evs sh i) :
    evRule sh (stepShape sh i).2 e = true := by
  have h := event_rules sh i
  rw [hg] at h
  exact List.all_eq_true.mp h e he

/-- a clause `!contains e || x` of a property holds when the rule of `e` gives `x` -/
theorem clause {sh : Shape} {i : StreamInputs} (hg : Good sh = true) (e : SEv) {x : Bool}
    (hx : evRule sh (stepShape sh i).2 e = true → x = true) : (!(evs sh i).contains e || x) = true := by
  cases hc : (evs sh i).contains e
  · rfl
  · exact hx (rule_of_mem hg (List.contains_iff_mem.mp hc))

theorem clause_or {a b x : Bool} (ha : (!a || x) = true) (hb : (!b || x) = true) : (!(a || b) || x) = true := by
  cases a <;> cases b <;> simp_all

/-- **role**: a request is only ever reported on a stream whose role is "server side", responses,
    informational responses and pushes only on one whose role is "client side" -/
theorem C07_role : ∀ sh i, (!Good sh ||
    ((!(evs sh i).contains .RequestReceived || (stepShape sh i).2.client == some false) &&
     (!((evs sh i).contains .ResponseReceived || (evs sh i).contains .InformationalResponseReceived ||
        (evs sh i).contains .PushedStreamReceived) || (stepShape sh i).2.client == some true))) = true := by
  intro sh i
  cases hg : Good sh
  · rfl
  · simp only [Bool.not_true, Bool.false_or, Bool.and_eq_true]
    exact ⟨clause hg .RequestReceived (by simp +contextual [evRule]),
      clause_or (clause_or (clause hg .ResponseReceived (by simp +contextual [evRule]))
        (clause hg .InformationalResponseReceived (by simp +contextual [evRule])))
        (clause hg .PushedStreamReceived (by simp +contextual [evRule]))⟩

/-- **order**, each clause on the flags *before* the step that reports the event: no DataReceived before the final
    headers; a request or response only while no final headers were received; no informational response after
    them; trailers only after headers and while no trailers were received.  (That the step sets the flag, and with it
    "at most once", is not part of the statement.) -/
theorem C07_order : ∀ sh i, (!Good sh ||
    ((!(evs sh i).contains .DataReceived || sh.headersReceived) &&
     (!((evs sh i).contains .RequestReceived || (evs sh i).contains .ResponseReceived) || !sh.headersReceived) &&
     (!(evs sh i).contains .InformationalResponseReceived || !sh.headersReceived) &&
     (!(evs sh i).contains .TrailersReceived || (sh.headersReceived && !sh.trailersReceived)))) = true := by
  intro sh i
  cases hg : Good sh
  · rfl
  · simp only [Bool.not_true, Bool.false_or, Bool.and_eq_true]
    exact ⟨⟨⟨clause hg .DataReceived (by simp +contextual [evRule]),
      clause_or (clause hg .RequestReceived (by simp +contextual [evRule]))
        (clause hg .ResponseReceived (by simp +contextual [evRule]))⟩,
      clause hg .InformationalResponseReceived (by simp +contextual [evRule])⟩,
      clause hg .TrailersReceived (by simp +contextual [evRule])⟩

/-- **after StreamEnded**: once the receive side is finished (half-closed(remote) or closed) no input yields a
    message event any more, and in particular no second StreamEnded -/
theorem C07_nothing_after_end : ∀ sh i, (!Good sh ||
    !(sh.state == .HALF_CLOSED_REMOTE || sh.state == .CLOSED) ||
    (evs sh i).all (fun e => !isMessageEvent e)) = true := by
  intro sh i
  cases hg : Good sh
  · rfl
  cases hs : sh.state == .HALF_CLOSED_REMOTE || sh.state == .CLOSED
  · rfl
  · refine List.all_eq_true.mpr fun e he => ?_
    have h := rule_of_mem hg he
    revert h hs
    simp only [evRule]
    cases isMessageEvent e <;> cases sh.state <;> simp

/-- a step that reports StreamEnded finishes the receive side: it leaves the stream half-closed(remote) or closed -/
theorem C07_stream_ended_closes : ∀ sh i, (!Good sh || !(evs sh i).contains .StreamEnded ||
    ((stepShape sh i).2.state == .HALF_CLOSED_REMOTE || (stepShape sh i).2.state == .CLOSED)) = true := by
  intro sh i
  cases hg : Good sh
  · rfl
  · exact clause hg .StreamEnded (by simp +contextual [evRule])

/-- **at most one StreamReset, and nothing after it**: a StreamReset event always leaves the stream CLOSED, and a
    CLOSED stream never produces any stream event again (PriorityUpdated is a connection-level event) -/
theorem C07_reset_is_final : ∀ sh i, (!Good sh ||
    ((!(evs sh i).contains .StreamReset || (stepShape sh i).2.state == .CLOSED) &&
     (sh.state != .CLOSED || (evs sh i).isEmpty) &&
     (sh.state != .CLOSED || (stepShape sh i).2.state == .CLOSED))) = true := by
  intro sh i
  cases hg : Good sh
  · rfl
  · have h2 : (sh.state != .CLOSED || (evs sh i).isEmpty) = true := by
      cases hl : evs sh i with
      | nil => simp
      | cons e _ =>
        have h := rule_of_mem hg (hl ▸ List.mem_cons_self : e ∈ evs sh i)
        simp only [evRule, Bool.and_eq_true] at h
        simp [h.1.1]
    -- the CLOSED row of the table has no way out, good shape or not
    have h3 : (sh.state != .CLOSED || (stepShape sh i).2.state == .CLOSED) = true := by
      cases hs : sh.state != .CLOSED
      · have hc : sh.state = .CLOSED := by simpa using hs
        rcases stepShape_state sh i with h | h <;> simp [h, hc, tgt_closed]
      · rfl
    simp only [Bool.not_true, Bool.false_or, Bool.and_eq_true]
    exact ⟨⟨clause hg .StreamReset (by simp +contextual [evRule]), h2⟩, h3⟩

/-- In the list returned for one HEADERS or DATA frame, an event that says "stream ended" is immediately
    followed by the StreamEnded of the same stream, and one that says "priority updated" is followed by a
    PriorityUpdated of that stream: related-event fields always point *later* into the same list.  (The priority
    flag is set by `receiveHeadersRest` only; `Stream.receiveHeaders` and `Stream.receiveData`, which the two
    theorems below are about, always report it as false, so they do not exercise that clause.) -/
def relatedOK : List Event → Bool
  | [] => true
  | .Headers k sid _ se pu :: rest =>
    (!se || rest.head? == some (.StreamEnded sid)) &&
    (!pu || rest.any (fun e => match e with | .PriorityUpdated s _ _ _ => s == sid | _ => false)) &&
    (k != .trailers || se) && relatedOK rest
  | .DataReceived sid _ _ se :: rest => (!se || rest.head? == some (.StreamEnded sid)) && relatedOK rest
  | _ :: rest => relatedOK rest

theorem C07_related_data (data : Bytes) (es : Bool) (fcl : Int) (st : Stream) :
    wp (Stream.receiveData data es fcl) (fun r _ => relatedOK r.2 = true) (fun _ _ => True) st := by
  refine wp_mono (sgood_receiveData data es fcl st) ?_ (fun _ _ _ => trivial)
  rintro r _ ⟨_, _, rfl⟩
  cases es <;> simp [relatedOK]

theorem relatedOK_hdr {k : SEv} {sid : Int} {hs : List Header} {es : Bool} {ev : Event}
    (h : hdrEvent k sid hs es = some ev) (htr : (k == SEv.TrailersReceived) = true → es = true) :
    relatedOK (ev :: if es then [Event.StreamEnded sid] else []) = true := by
  cases k <;> simp [hdrEvent] at h htr <;> subst h <;> cases es <;> simp [relatedOK] at htr ⊢

theorem C07_related_headers (cfg : Config) (hs : List Header) (es : Bool) (st : Stream) :
    wp (Stream.receiveHeaders cfg hs es) (fun r _ => relatedOK r.2 = true) (fun _ _ => True) st := by
  refine wp_mono (receiveHeaders_ret cfg hs es st) ?_ (fun _ _ h => h)
  rintro r _ ⟨k, _, hs', ev, _, _, hev, htr, rfl⟩
  exact relatedOK_hdr hev htr

/-- non-vacuity -/
example : evs { state := .OPEN, client := some false, headersReceived := true } .RECV_DATA = [.DataReceived] ∧
    evs {} .RECV_HEADERS = [.RequestReceived] := by decide

end H2.C07
