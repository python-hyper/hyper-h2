/-
  C15 — inbound header validation accepts exactly the conformant header blocks.

  `ConformantIn hs fl` (Proofs/HeaderRules.lean) is RFC 7540 section 8.1.2 written out as a rule book: per-field rules
  (`FieldOk`: non-empty lowercase name, no surrounding whitespace in name or value, TE only "trailers", no
  connection-specific field), pseudo-header shape (`PseudoShape`: known names only, all before the regular fields, none
  twice), role rules by block type (`RoleOk`), :authority/Host agreement and non-empty :path for requests.
  The theorems say that the model of `utilities.validate_headers` (a fold with state, plus per-field scans) accepts
  a block if and only if the rule book does, returns it unchanged, refuses everything else with ProtocolError, and that
  what `H2Stream.receive_headers` / `receive_push_promise_in_band` deliver is the validated block (after cookie joining
  when normalisation is on, as text when header_encoding is set).
  The constant tables the rules mention are the ones generated from utilities.py on every run
  (`tables_as_literals`).
-/
import H2.Proofs.HeaderRules
import H2.Proofs.PairHeaders
-- the pair-level consequence: what C14 lets out, C15 lets in
-- @also H2.Pair.emitted_block_is_accepted
import H2.Proofs.RecvStream
import H2.Proofs.Keeps

namespace H2.C15
open H2 H2.Gen

/-- **accepts exactly the conformant blocks** (and returns them unchanged) -/
theorem C15_accepts_iff_conformant (hs : List Header) (fl : HdrFlags) :
    validateInbound hs fl = .ok hs ↔ ConformantIn hs fl := (validateInbound_iff hs fl).1

/-- whatever it returns is its input: validation never rewrites a block -/
theorem C15_validation_is_identity (hs out : List Header) (fl : HdrFlags) (h : validateInbound hs fl = .ok out) :
    out = hs := validateInbound_id hs out fl h

/-- **a non-conformant block is refused with PROTOCOL_ERROR** -/
theorem C15_refuses_nonconformant (hs : List Header) (fl : HdrFlags) (h : ¬ ConformantIn hs fl) :
    validateInbound hs fl = .error (mkExc .ProtocolError) ∧
    (mkExc .ProtocolError).isInstance .ProtocolError = true ∧
    mkExc .ProtocolError = Exc.h2 .ProtocolError (some 1) none [] :=
  ⟨(validateInbound_iff hs fl).2 h, by decide, rfl⟩

/-! ### `_process_received_headers`: validation, cookie joining, text decoding -/

/-- what is delivered after validation: cookies joined when `normalize_inbound_headers` is on -/
def pre (cfg : Config) (headers : List Header) : List Header := if cfg.normIn then combineCookies headers else headers

/-- **delivered if and only if the received block is conformant** (and the text decoding, if any, succeeds); the
    delivered list is the block with its cookie fields joined -/
theorem C15_process_delivers_iff (cfg : Config) (headers out : List Header) (fl : HdrFlags) (hv : cfg.valIn = true) :
    processReceivedHeaders cfg headers fl = .ok out ↔
      ConformantIn headers fl ∧ decodeText cfg.enc (pre cfg headers) = .ok out := by
  unfold processReceivedHeaders pre
  simp only [hv, if_true]
  by_cases hc : ConformantIn headers fl
  · rw [(C15_accepts_iff_conformant _ fl).mpr hc]
    simp only [hc, true_and]
    rfl
  · rw [((validateInbound_iff _ fl).2 hc)]
    simp only [hc, false_and, iff_false]
    intro h; cases h

theorem C15_process_refuses (cfg : Config) (headers : List Header) (fl : HdrFlags) (hv : cfg.valIn = true)
    (hn : ¬ ConformantIn headers fl) :
    processReceivedHeaders cfg headers fl = .error (mkExc .ProtocolError) := by
  unfold processReceivedHeaders
  simp only [hv, if_true]
  rw [((validateInbound_iff _ fl).2 hn)]
  rfl

/-- with validation off nothing is checked: only joining and decoding happen -/
theorem C15_process_unvalidated (cfg : Config) (headers : List Header) (fl : HdrFlags) (hv : cfg.valIn = false) :
    processReceivedHeaders cfg headers fl = decodeText cfg.enc (pre cfg headers) := by
  unfold processReceivedHeaders pre
  simp only [hv, Bool.false_eq_true, if_false]
  rfl

/-- delivered headers: the block itself without header_encoding, its text with it (refused if not valid UTF-8) -/
theorem C15_decode (hs : List Header) :
    decodeText .none hs = .ok hs ∧
    (∀ out, decodeText .utf8 hs = .ok out → out = hs.map fun h => { h with name := HStr.s h.name.bs, value := HStr.s h.value.bs }) ∧
    (∀ e, decodeText .utf8 hs = .error e → e = mkExc .ProtocolError) := by
  refine ⟨rfl, ?_, ?_⟩
  · intro out h
    unfold decodeText at h
    simp only at h
    split at h
    · cases h; rfl
    · cases h
  · intro e h
    unfold decodeText at h
    simp only at h
    split at h
    · cases h
    · cases h; rfl

/-! ### cookie joining -/

def isCookie (h : Header) : Bool := h.name == HStr.b (strBytes "cookie")

/-- no cookie field: the block is untouched -/
theorem C15_cookies_none (hs : List Header) (h : ∀ x ∈ hs, isCookie x = false) : combineCookies hs = hs := by
  unfold combineCookies
  simp only
  rw [List.filter_eq_nil_iff.mpr fun a ha => by simpa [isCookie] using h a ha,
    List.filter_eq_self.mpr fun a ha => by simpa [isCookie] using h a ha]
  rfl

/-- the joined value is at least as long as what it starts from and as each part -/
theorem le_joined (l : List Bytes) (acc z : Bytes) (h : z ∈ l ∨ z.length ≤ acc.length) :
    z.length ≤ (l.foldl (fun acc x => acc ++ strBytes "; " ++ x) acc).length := by
  induction l generalizing acc with
  | nil => exact h.elim nofun id
  | cons a t ih =>
    refine ih _ ?_
    rcases h with h | h
    · rcases List.mem_cons.mp h with rfl | h
      · right; simp only [List.length_append]; omega
      · exact .inl h
    · right; simp only [List.length_append]; omega

/-- some cookie field: every other field keeps its place, and one never-indexed `cookie` field follows them -/
theorem C15_cookies_joined (hs : List Header) (x : Header) (hx : x ∈ hs) (hc : isCookie x = true) :
    ∃ v, combineCookies hs = hs.filter (fun h => !isCookie h) ++ [{ name := HStr.b (strBytes "cookie"), value := HStr.b v, ni := true }] ∧
      ∀ y ∈ hs, isCookie y = true → y.value.bs.length ≤ v.length := by
  unfold combineCookies
  simp only
  have hmem : ∀ y ∈ hs, isCookie y = true →
      y.value.bs ∈ (hs.filter (fun h => h.name == HStr.b (strBytes "cookie"))).map (·.value.bs) :=
    fun y hy hyc => List.mem_map_of_mem (List.mem_filter.mpr ⟨hy, hyc⟩)
  cases hf : (hs.filter (fun h => h.name == HStr.b (strBytes "cookie"))).map (·.value.bs) with
  | nil => exact absurd (hf ▸ hmem x hx hc) List.not_mem_nil
  | cons c cs =>
    refine ⟨_, rfl, fun y hy hyc => le_joined cs c _ ?_⟩
    rcases List.mem_cons.mp (hf ▸ hmem y hy hyc) with h | h
    · exact .inr (h ▸ Nat.le_refl _)
    · exact .inl h

/-! ### what the stream delivers -/

/-- what the events of a successful `receive_headers` must look like -/
def Delivered (cfg : Config) (headers : List Header) (es : Bool) (r : List Frame × List Event) (st' : Stream) : Prop :=
  ∃ e0 fl hs', FlagsOf e0 fl ∧ processReceivedHeaders cfg headers fl = .ok hs' ∧
    (hdrEvent e0 st'.sid hs' es).isSome = true ∧ r.2.head? = hdrEvent e0 st'.sid hs' es

/-- **`H2Stream.receive_headers` delivers a header event only with a block that `_process_received_headers` accepted
    for the block type of that event** (so, with validation on, a conformant one: `C15_process_delivers_iff`) -/
theorem C15_receiveHeaders_delivers (cfg : Config) (headers : List Header) (es : Bool) (st : Stream) :
    wp (Stream.receiveHeaders cfg headers es) (Delivered cfg headers es) (fun _ _ => True) st := by
  -- what is returned is `HdrRet` for the id the stream had when the call began, and no stream method changes the id
  have hid := Keeps.field (f := Stream.sid) (fun v => (StreamPrims.ofField Stream.sid v).receiveHeaders cfg headers es) st
  refine wp_mono (wp_and (receiveHeaders_ret cfg headers es st) hid) ?_ (fun _ _ _ => trivial)
  rintro r st' ⟨⟨k, fl, hs', ev, hfl, hok, hev, _, rfl⟩, hsid⟩
  exact ⟨k, fl, hs', hfl, hok, by rw [hsid, hev]; rfl, by rw [hsid, hev]; rfl⟩

/-- the same for a pushed request: `receive_push_promise_in_band` delivers PushedStreamReceived only with a block that
    `_process_received_headers` accepted as a request block -/
theorem C15_pushPromise_delivers (cfg : Config) (promised : Int) (headers : List Header) (st : Stream) :
    wp (Stream.receivePushPromiseInBand cfg promised headers)
      (fun r st' => ∃ fl hs', fl.isTrailer = false ∧ fl.isResponse = false ∧
          processReceivedHeaders cfg headers fl = .ok hs' ∧
          r.2 = [Event.PushedStreamReceived (some promised) st'.sid hs'])
      (fun _ _ => True) st := by
  have hid := Keeps.field (f := Stream.sid)
    (fun v => (StreamPrims.ofField Stream.sid v).receivePushPromiseInBand cfg promised headers) st
  refine wp_mono (wp_and (receivePushPromiseInBand_ret cfg promised headers st) hid) ?_ (fun _ _ _ => trivial)
  rintro r st' ⟨⟨fl, hs', h1, h2, _, hok, rfl⟩, hsid⟩
  exact ⟨fl, hs', h1, h2, hok, by rw [hsid]⟩

/-! ### the rule book is satisfiable and does refuse: a plain request, and the same with an upper-case field name -/

def sampleRequest : List Header :=
  [⟨.b (strBytes ":method"), .b (strBytes "GET"), false⟩, ⟨.b (strBytes ":scheme"), .b (strBytes "https"), false⟩,
   ⟨.b (strBytes ":path"), .b (strBytes "/"), false⟩, ⟨.b (strBytes ":authority"), .b (strBytes "example.com"), false⟩,
   ⟨.b (strBytes "te"), .b (strBytes "trailers"), false⟩]
def requestFlags : HdrFlags := { isClient := some false, isTrailer := false, isResponse := false, isPush := false }

/-- `validate_headers` as a yes/no answer (computable, for the examples) -/
def accepts (hs : List Header) (fl : HdrFlags) : Bool :=
  match validateInbound hs fl with | .ok _ => true | .error _ => false

theorem accepts_iff (hs : List Header) (fl : HdrFlags) : accepts hs fl = true ↔ ConformantIn hs fl := by
  rw [← C15_accepts_iff_conformant]
  unfold accepts
  cases h : validateInbound hs fl with
  | ok out => simp [validateInbound_id hs out fl h]
  | error e => simp

example : ConformantIn sampleRequest requestFlags := (accepts_iff _ _).mp (by decide +kernel)
example : ¬ ConformantIn (sampleRequest ++ [⟨.b (strBytes "X-Upper"), .b (strBytes "1"), false⟩]) requestFlags := by
  rw [← accepts_iff]; decide +kernel
example : ¬ ConformantIn sampleRequest { requestFlags with isResponse := true } := by
  rw [← accepts_iff]; decide +kernel

end H2.C15
