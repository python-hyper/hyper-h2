/-
  C16 — Content-Length is enforced as RFC 7540 section 8.1.2.6 requires.
-/
import H2.Proofs.StreamLemmas

namespace H2.C16
open H2 H2.Gen

/-- **`_track_content_length`** on a stream that expects `L` bytes and has seen `a`: `n` more payload bytes are accepted
    exactly when they do not overrun `L` and — if they end the stream — complete it; the count then is `a + n`.
    A refusal is InvalidBodyLengthError. -/
theorem C16_track (st : Stream) (L n : Int) (es : Bool) (h : st.expectedCL = some L) :
    wp (Stream.trackContentLength n es)
      (fun _ st' => st.actualCL + n ≤ L ∧ (es = true → st.actualCL + n = L) ∧ st'.actualCL = st.actualCL + n ∧
        st'.expectedCL = some L)
      (fun e _ => e.isInstance .InvalidBodyLengthError = true ∧
        (L < st.actualCL + n ∨ (es = true ∧ st.actualCL + n ≠ L))) st := by
  unfold Stream.trackContentLength
  wps
  simp only [h]
  by_cases h1 : L < st.actualCL + n
  · simp only [h1, if_true]; exact ⟨rfl, Or.inl trivial⟩
  · simp only [h1, if_false]
    by_cases h2 : (es && L != st.actualCL + n) = true
    · simp only [h2, if_true]
      refine ⟨rfl, Or.inr ?_⟩
      simp only [Bool.and_eq_true, bne_iff_ne, ne_eq] at h2
      exact ⟨h2.1, fun h3 => h2.2 h3.symm⟩
    · simp only [h2, Bool.false_eq_true, if_false]
      refine ⟨by omega, ?_, rfl, rfl⟩
      intro hes
      simp only [hes, Bool.true_and, bne_iff_ne, ne_eq, Decidable.not_not] at h2
      exact h2.symm

/-- without an expected length everything is accepted -/
theorem C16_track_unknown (st : Stream) (n : Int) (es : Bool) (h : st.expectedCL = none) :
    wp (Stream.trackContentLength n es) (fun _ st' => st'.actualCL = st.actualCL + n ∧ st'.expectedCL = none)
      (fun _ _ => False) st := by
  unfold Stream.trackContentLength
  wps
  simp only [h]
  exact ⟨rfl, rfl⟩

/-- the verdicts of `C16_track` iterated over the payload lengths `ls` of a body, as a function on lists of its own
    (the last frame, or an empty one, carrying END_STREAM): `a` bytes seen so far, `L` expected; no prefix may overrun,
    the total must be `L`.  No lemma connects it to iterated `Stream.trackContentLength`. -/
def feedAll (L : Int) : Int → List Int → Bool
  | a, [] => a == L
  | a, n :: rest => if L < a + n then false else feedAll L (a + n) rest

theorem sum_nonneg : ∀ ls : List Int, (∀ n ∈ ls, 0 ≤ n) → 0 ≤ ls.sum
  | [], _ => Int.le_refl 0
  | n :: rest, h => by
    have := h n (List.mem_cons_self ..)
    have := sum_nonneg rest fun m hm => h m (List.mem_cons_of_mem _ hm)
    rw [List.sum_cons]
    omega

/-- for lengths that are not negative, `feedAll` accepts exactly when they sum up to `L`: no prefix overruns unless the
    total does -/
theorem C16_body_total (L : Int) (ls : List Int) (a : Int) (hpos : ∀ n ∈ ls, 0 ≤ n) :
    feedAll L a ls = (a + ls.sum == L) := by
  induction ls generalizing a with
  | nil => simp [feedAll]
  | cons n rest ih =>
    simp only [feedAll, List.sum_cons]
    have hn := hpos n (List.mem_cons_self ..)
    have hrest : ∀ m ∈ rest, 0 ≤ m := fun m hm => hpos m (List.mem_cons_of_mem _ hm)
    have hsum := sum_nonneg rest hrest
    split
    · rename_i hlt
      have : ¬ (a + (n + rest.sum) = L) := by omega
      simp [this]
    · rw [ih (a + n) hrest]
      congr 1
      omega

/-- responses that are defined to have no content — to a HEAD request, 204, 304 — expect exactly 0 bytes whatever
    their content-length field says; 1xx responses set nothing -/
theorem C16_no_content (hs : List Header) :
    contentLengthDecision (some (strBytes "HEAD")) hs = .set 0 := by
  unfold contentLengthDecision; simp

theorem C16_status_204_304 (m : Option Bytes) (hs : List Header) (v : HStr) (hm : m ≠ some (strBytes "HEAD"))
    (hf : (hs.find? fun h => h.name == HStr.b (strBytes ":status")).map (·.value) = some v)
    (hv : v = HStr.b (strBytes "204") ∨ v = HStr.b (strBytes "304")) :
    contentLengthDecision m hs = .set 0 := by
  unfold contentLengthDecision
  have : (m == some (strBytes "HEAD")) = false := by simpa using hm
  simp only [this, Bool.false_eq_true, if_false, hf]
  have n1 : (HStr.b (strBytes "204")).startsWith [49] = false := by decide +kernel
  have n2 : (HStr.b (strBytes "304")).startsWith [49] = false := by decide +kernel
  rcases hv with hv | hv <;> subst hv
  · simp only [n1, Bool.false_eq_true, if_false]
    rw [if_pos (by decide +kernel)]
  · simp only [n2, Bool.false_eq_true, if_false]
    rw [if_pos (by decide +kernel)]

theorem C16_status_1xx (m : Option Bytes) (hs : List Header) (v : HStr) (hm : m ≠ some (strBytes "HEAD"))
    (hf : (hs.find? fun h => h.name == HStr.b (strBytes ":status")).map (·.value) = some v)
    (hv : v.startsWith [49] = true) :
    contentLengthDecision m hs = .keep := by
  unfold contentLengthDecision
  have : (m == some (strBytes "HEAD")) = false := by simpa using hm
  simp only [this, Bool.false_eq_true, if_false, hf, hv, if_true]

/-- the request method is remembered from the request header block and is not overwritten by request trailers, so a
    HEAD request that sent trailers is still a HEAD request when its response arrives.  The statement is about the
    `if`-expression by which `Stream.sendHeadersAs` updates the field, copied here, not about the method itself. -/
theorem C16_method_survives_trailers (st : Stream) (hs : List Header) (h : st.sm.trailersSent = true) :
    (if !st.sm.trailersSent then { st with requestMethod := extractMethodHeader hs } else st).requestMethod
      = st.requestMethod := by
  simp [h]

theorem track_count (st : Stream) (n : Int) (es : Bool) :
    wp (Stream.trackContentLength n es) (fun _ st' => st'.actualCL = st.actualCL + n) (fun _ _ => True) st := by
  cases h : st.expectedCL with
  | none => exact wp_mono (C16_track_unknown st n es h) (fun _ _ h => h.1) (fun _ _ h => h.elim)
  | some L => exact wp_mono (C16_track st L n es h) (fun _ _ h => h.2.2.1) (fun _ _ _ => trivial)

/-- padding does not count: whatever the flow-controlled length of the DATA frame, an accepted frame adds exactly
    its payload length to the body count -/
theorem C16_padding_excluded (d : Bytes) (es : Bool) (fcl : Int) (st : Stream) :
    wp (Stream.receiveData d es fcl) (fun _ st' => st'.actualCL = st.actualCL + d.length) (fun _ _ => True) st := by
  unfold Stream.receiveData
  wps
  refine wp_processInput_havoc _ _ (fun evs sh => ?_) (fun _ _ => trivial)
  wps
  rw [wp_onWM]
  cases (WindowManager.window_consumed st.inWM fcl) with
  | mk r w =>
    cases r with
    | error e => trivial
    | ok v =>
      simp only
      wps
      -- the state machine and the window manager have left the count alone; it moves here, by the payload's length
      refine wp_mono (track_count _ _ _) (fun _ st2 h2 => ?_) (fun _ _ _ => trivial)
      -- what follows reads the state, but for END_STREAM's step of the state machine, which writes the shape only
      repeat' (first | exact h2 | trivial | (intro _) | wps | split | (apply wp_processInput_havoc))

end H2.C16
