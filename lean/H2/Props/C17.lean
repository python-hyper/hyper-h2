/-
  C17 — arbitrary peer bytes never produce a non-protocol exception.

  In the model every partial Python operation on the receive path (`streams[...]`, `events[0]`, `settings[...]`,
  `assert`, `struct.pack`, hyperframe's parse errors, mixed bytes/str comparisons) is an explicit `.py` result.
  The theorems say that none of them is reachable from `receive_data`, for every byte string, every configuration
  and every state satisfying the invariant `WF` (which `Conn.init` satisfies and `receive_data` preserves).
  The stream table and its side-effect functions enter through facts decided over the *generated* table.
-/
import H2.Proofs.RecvTotal

namespace H2.C17
open H2 H2.Gen H2.Conn

/-- the state the theorems speak about: the connection invariant of the receive path, and a header-block backlog
    that starts with the frame that opened it -/
def Inv (c : Conn) : Prop := WF c ∧ HbOk c.fb.headersBuffer

/-- the harness hands the model the results of the real HPACK decoder for the next call (`withOracles` in Driver.lean); the
    trusted assumption about hpack is that `Decoder.decode(raw=True)` returns pairs of bytes or raises one of the
    exceptions `_decode_headers` catches -/
def feed (c : Conn) (enc : List Bytes) (dec : List DecRes) : Conn :=
  { c with hp := { c.hp with encOracle := enc, decOracle := dec, oracleMiss := false } }

/-- `DecOk`, of the answers the decoder is about to be given (the same body: `C17_feed` passes one for the other) -/
def DecResOk (dec : List DecRes) : Prop :=
  ∀ r ∈ dec, match r with
    | .ok hs => AllBytes hs
    | .py _ => False
    | _ => True

theorem C17_init (cfg : Config) : Inv (Conn.init cfg) := by
  -- either role starts from literal settings, an empty decoder oracle, an empty stream table and an empty backlog
  unfold Inv
  cases hc : cfg.client <;> simp only [Conn.init, hc, Bool.false_eq_true, if_false, if_true]
  · exact ⟨⟨⟨settingsOk_init_sl, settingsOk_init_sr, (by decide : (16384 : Int) ≤ server_init_max_out_frame), nofun,
      ls32_init_sl⟩, fun _ _ h => nomatch h⟩, trivial⟩
  · exact ⟨⟨⟨settingsOk_init_cl, settingsOk_init_cr, (by decide : (16384 : Int) ≤ client_init_max_out_frame), nofun,
      ls32_init_cl⟩, fun _ _ h => nomatch h⟩, trivial⟩

theorem C17_feed (c : Conn) (enc : List Bytes) (dec : List DecRes) (h : Inv c) (hd : DecResOk dec) :
    Inv (feed c enc dec) :=
  ⟨⟨{ h.1.wfb with dec := hd }, h.1.2⟩, h.2⟩

/-- **C17**: `receive_data` on any bytes returns events or raises ProtocolError (or a subclass) whose error code
    fits a GOAWAY frame; never anything else.  The invariant holds again afterwards. -/
theorem C17_receive_data (c : Conn) (data : Bytes) (h : Inv c) :
    match receiveData data c with
    | (.ok _, c') => Inv c'
    | (.error e, c') => GoodExc e ∧ Inv c' :=
  receiveData_ok data c h.1 h.2

/-- the same as an observation of `step`: the result is never a Python-level exception, and an h2 exception is a
    `ProtocolError` -/
theorem C17_step (c : Conn) (data : Bytes) (h : Inv c) :
    (∀ k, (step c (.recv data)).2.res ≠ .py k) ∧
    (∀ cls code sid, (step c (.recv data)).2.res = .h2 cls code sid → cls.isSub .ProtocolError = true) ∧
    Inv (step c (.recv data)).1 := by
  have hs := C17_receive_data c data h
  simp only [step]
  cases hr : receiveData data c with
  | mk r c' =>
    rw [hr] at hs
    cases r with
    | ok evs => exact ⟨fun _ => nofun, fun _ _ _ => nofun, hs⟩
    | error e =>
      cases e with
      | py k => exact hs.1.elim
      | h2 cls code sid evs =>
        refine ⟨fun _ => nofun, ?_, hs.2⟩
        intro cls' code' sid' hk
        simp only [resOf, Res.h2.injEq] at hk
        rw [← hk.1]
        exact hs.1.1

/-- any number of `receive_data` calls, each with whatever the decoder produced for it -/
def recvAll (c : Conn) : List (Bytes × List DecRes) → Conn × List Res
  | [] => (c, [])
  | (d, dec) :: rest =>
    let r := step (feed c [] dec) (.recv d)
    let rr := recvAll r.1 rest
    (rr.1, r.2.res :: rr.2)

theorem C17_any_history (cfg : Config) (inputs : List (Bytes × List DecRes)) (hd : ∀ x ∈ inputs, DecResOk x.2) :
    ∀ r ∈ (recvAll (Conn.init cfg) inputs).2, ∀ k, r ≠ .py k := by
  suffices ∀ c, Inv c → ∀ r ∈ (recvAll c inputs).2, ∀ k, r ≠ .py k from this _ (C17_init cfg)
  induction inputs with
  | nil => intro c _ r hr; simp [recvAll] at hr
  | cons x xs ih =>
    obtain ⟨d, dec⟩ := x
    intro c hc r hr k
    have hfeed := C17_feed c [] dec hc (hd (d, dec) (List.mem_cons_self ..))
    have hs := C17_step (feed c [] dec) d hfeed
    simp only [recvAll, List.mem_cons] at hr
    rcases hr with h1 | h1
    · rw [h1]; exact hs.1 k
    · exact ih (fun y hy => hd y (List.mem_cons_of_mem _ hy)) _ hs.2.2 r h1 k

/-- non-vacuity: a fresh server satisfies the invariant -/
example : Inv (Conn.init { client := false }) := C17_init _

end H2.C17
