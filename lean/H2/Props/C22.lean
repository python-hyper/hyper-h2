/-
  C22 — server push rules are enforced on both ends.
-/
import H2.Proofs.RecvStream
import H2.Props.C09

namespace H2.C22
open H2 H2.Gen H2.Conn

/-- the client has disabled push (its acknowledged ENABLE_PUSH is 0): `push_stream` raises ProtocolError and nothing
    at all changes -/
theorem C22_push_disabled (sid promised : Int) (hs : List Header) (c : Conn)
    (h : c.remoteSettings.enablePush = some 0) : pushStream sid promised hs c = (.error pErr, c) := by
  unfold pushStream
  simp only [bind, M.bind, getS, h, beq_self_eq_true, if_true]; rfl

/-- pushes on pushed streams are refused: an even parent id is a ProtocolError before any stream is created -/
theorem C22_no_recursive_push (sid promised : Int) (hs : List Header) (c : Conn) (heven : sid % 2 = 0) :
    wp (pushStream sid promised hs) (fun _ _ => False)
      (fun _ c' => c'.streams = c.streams ∧ c'.sent = c.sent ∧ c'.out = c.out ∧ c'.highestOut = c.highestOut) c := by
  unfold pushStream
  have hev : (sid % 2 == 0) = true := by simp [heven]
  wps
  -- every way out, down to the parity check, has written at most the connection state
  cases c.remoteSettings.enablePush with
  | none => exact ⟨rfl, rfl, rfl, rfl⟩
  | some ep =>
    simp only
    rw [wp_ite, wp_raise, wp_bind, wp_connInput_eq]
    refine ite_intro (fun _ => ⟨rfl, rfl, rfl, rfl⟩) fun _ => ?_
    split
    · rw [wp_bind, wp_getStreamById_lookup, wp_ite, if_pos hev, wp_raise]
      exact ite_intro (fun _ => ⟨rfl, rfl, rfl, rfl⟩) fun _ => ⟨rfl, rfl, rfl, rfl⟩
    · exact ⟨rfl, rfl, rfl, rfl⟩

/-- the parent must be a stream the client opened that is open or half-closed(remote), at a server: on a stream that
    has left IDLE (every stream of the table: `WF`) exactly there does the stream state machine accept
    SEND_PUSH_PROMISE (decided over the generated table, reachable shapes), and it leaves the parent's state alone.
    IDLE is set aside because the machine accepts the input there too: that row is the promised stream's
    (`C22_promised_stream`), not a parent's. -/
def pushParentOk (sh : Shape) : Bool :=
  sh.client == some false && (sh.state == .OPEN || sh.state == .HALF_CLOSED_REMOTE)

theorem C22_parent_states : ∀ sh, (!Good sh || sh.state == .IDLE ||
    (okStep sh .SEND_PUSH_PROMISE == pushParentOk sh)) = true :=
  forall_good_shape (fun s hg => by simp [hg]) (by decide +kernel)

theorem C22_parent_unchanged : ∀ sh, (!Good sh || !pushParentOk sh ||
    ((stepShape sh .SEND_PUSH_PROMISE).2 == sh)) = true := by
  intro sh
  cases hp : pushParentOk sh
  · rw [Bool.not_false, Bool.or_true, Bool.true_or]
  · -- the rows of OPEN and HALF_CLOSED_REMOTE stay in their state, and on a server's stream the effect
    -- `send_push_promise` hands the machine back as it got it
    unfold pushParentOk at hp
    simp only [Bool.and_eq_true, Bool.or_eq_true, beq_iff_eq] at hp
    obtain ⟨hcl, hst⟩ := hp
    have hrow : streamTable sh.state .SEND_PUSH_PROMISE = some (some .send_push_promise, sh.state) := by
      rcases hst with h | h <;> rw [h] <;> rfl
    have hstep : (stepShape sh .SEND_PUSH_PROMISE).2 = sh := by
      unfold stepShape
      rw [hrow]
      dsimp only [runEffect]
      rw [if_neg (by rw [hcl]; decide)]
    rw [hstep, beq_self_eq_true, Bool.or_true]

/-- the promised stream starts reserved(local) and then carries only a response: the new stream accepts
    SEND_HEADERS (the response) and nothing else that opens it; a push on it is refused -/
theorem C22_promised_stream :
    (stepShape {} .SEND_PUSH_PROMISE).1 = .ok [] ∧ (stepShape {} .SEND_PUSH_PROMISE).2.state = .RESERVED_LOCAL ∧
    okStep (stepShape {} .SEND_PUSH_PROMISE).2 .SEND_PUSH_PROMISE = false ∧
    okStep (stepShape {} .SEND_PUSH_PROMISE).2 .SEND_DATA = false ∧
    okStep (stepShape {} .SEND_PUSH_PROMISE).2 .SEND_HEADERS = true := by decide

/-- the promised id: `_begin_new_stream(promised, EVEN)` — even, above every id used so far in its direction (the
    server's own ids, where it is the server that promises), at most 2^31-1 (C09_begin) -/
theorem C22_promised_id (promised : Int) (c : Conn) :
    wp (beginNewStream promised false)
      (fun _ c' => promised % 2 = 0 ∧ promised ≤ HIGHEST_ALLOWED_STREAM_ID ∧
        (if streamIdIsOutbound c promised then c.highestOut < promised else c.highestIn < promised))
      (fun _ c' => c' = c) c := by
  refine wp_mono (C09.C09_begin promised false c) ?_ ?_
  · intro _ c' h
    refine ⟨by simpa using h.2.1, h.2.2.1, ?_⟩
    split <;> rename_i hob <;> simp only [hob, if_true, if_false, Bool.false_eq_true] at h <;> exact h.1.1
  · intro e c' h; exact h

/-- a client that has disabled push treats PUSH_PROMISE as a connection error — before the header block is even
    decoded, and with nothing changed -/
theorem C22_recv_disabled (sid promised : Int) (block : Bytes) (c : Conn) (h : c.localSettings.enablePush = some 0) :
    receivePushPromiseFrame sid promised block c = (.error pErr, c) := by
  unfold receivePushPromiseFrame
  simp only [bind, M.bind, getS, h, beq_self_eq_true, if_true]; rfl

/-- a PUSH_PROMISE on a pushed (even) stream is a connection error: no stream is created, no event reported -/
theorem C22_recv_no_recursive (sid promised : Int) (hs : List Header) (c : Conn) (heven : sid % 2 = 0) :
    receivePushPromiseKnown sid promised hs c = (.error pErr, c) := by
  unfold receivePushPromiseKnown
  have : (sid % 2 == 0) = true := by simp [heven]
  simp only [this, if_true]; rfl

/-- the event: PushedStreamReceived with the promised id, the parent's id and the validated request headers (checked
    as a pushed request: `is_push_promise`), reported only where the parent accepts RECV_PUSH_PROMISE -/
theorem C22_recv_event (cfg : Config) (promised : Int) (hs : List Header) (st : Stream) (fe : FE) (st' : Stream)
    (h : Stream.receivePushPromiseInBand cfg promised hs st = (.ok fe, st')) :
    fe.1 = [] ∧ ∃ hs', fe.2 = [Event.PushedStreamReceived (some promised) st.sid hs'] ∧
      ∃ fl, processReceivedHeaders cfg hs fl = .ok hs' ∧ fl.isPush = true := by
  obtain ⟨fl, hs', _, _, hpush, hok, rfl⟩ := (wp_result (receivePushPromiseInBand_ret cfg promised hs st)).1 fe st' h
  exact ⟨rfl, hs', rfl, fl, hok, hpush⟩

end H2.C22
