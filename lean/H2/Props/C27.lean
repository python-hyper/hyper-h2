/-
  C27 — peer-controlled retained state stays bounded.
-/
import H2.Proofs.HbCap
import H2.Proofs.History
import H2.Proofs.ClosedTable

namespace H2.C27
open H2 H2.Gen H2.Conn

theorem foldl_cap {α β} (f : List α → β → List α) (N : Nat) (hf : ∀ acc e, (f acc e).length ≤ N) (dead : List β)
    (l : List α) (h : l.length ≤ N) : (dead.foldl f l).length ≤ N := by
  induction dead generalizing l with
  | nil => exact h
  | cons e t ih => exact ih _ (hf _ _)

/-- `SizeLimitDict.__setitem__`: never more than MAX_CLOSED_STREAMS entries, whatever was there before -/
theorem C27_closedInsert_cap (l : List (Int × Option StreamClosedBy)) (k : Int) (v : Option StreamClosedBy) :
    (closedInsert l k v).length ≤ MAX_CLOSED_STREAMS.toNat := by
  unfold closedInsert
  simp only [List.length_drop]; omega

/-- `_open_streams` (the only place that moves closed streams into the memory) keeps the cap -/
theorem C27_openStreams_cap (r : Int) (c : Conn) (h : c.closedStreams.length ≤ MAX_CLOSED_STREAMS.toNat) :
    ((openStreams r c).2).closedStreams.length ≤ MAX_CLOSED_STREAMS.toNat ∧
    ((openStreams r c).2).streams.length ≤ c.streams.length := by
  unfold openStreams
  refine ⟨?_, List.length_filter_le _ _⟩
  exact foldl_cap (fun acc (e : Int × Stream) => closedInsert acc e.1 e.2.sm.closedBy) MAX_CLOSED_STREAMS.toNat
    (fun acc e => C27_closedInsert_cap acc e.1 e.2.sm.closedBy) _ _ h

/-- …and it forgets every closed stream of the table at once: none is left behind -/
theorem C27_openStreams_drops_closed (r : Int) (c : Conn) :
    ∀ e ∈ ((openStreams r c).2).streams, e.2.isClosed = false ∨ (e.2.isOpen && e.1 % 2 == r) = true := by
  simp only [openStreams]
  intro e he
  have := (List.mem_filter.mp he).2
  simp only [Bool.or_eq_true, Bool.not_eq_true'] at this
  exact this.symm

theorem C27_refuse_cap (p : Int) (c : Conn) (h : c.closedStreams.length ≤ MAX_CLOSED_STREAMS.toNat) :
    ((refusePushedStream p c).2).closedStreams.length ≤ MAX_CLOSED_STREAMS.toNat ∧
    ((refusePushedStream p c).2).streams = c.streams := by
  have e : (refusePushedStream p c).2 = (if (!streamIdIsOutbound c p && decide (p > c.highestIn)) = true then
      ({ c with highestIn := p, closedStreams := closedInsert c.closedStreams p (some .SEND_RST_STREAM) } : Conn) else c) := rfl
  rw [e]
  split
  · refine ⟨?_, rfl⟩
    dsimp only
    exact C27_closedInsert_cap c.closedStreams p (some .SEND_RST_STREAM)
  · exact ⟨h, rfl⟩

/-- keys of the stream table and the memory of closed streams -/
def tbl (c : Conn) : List Int × List (Int × Option StreamClosedBy) := (c.streams.map (·.1), c.closedStreams)

theorem tbl_setStream (c : Conn) (sid : Int) (st : Stream) : tbl (setStream c sid st) = tbl c :=
  congrArg (·, c.closedStreams) (setStream_keys c sid st)

abbrev Keeps (m : CM α) (c : Conn) : Prop := wp m (fun _ c' => tbl c' = tbl c) (fun _ c' => tbl c' = tbl c) c

/-- a stream method changes the stream object and not the key it is filed under -/
theorem tbl_prims (v) : BasePrims (fun c => tbl c = v) where
  withStream sid m _ := Keeps.withStream_setStream sid m fun c _ h _ => (tbl_setStream c sid _).trans h

/-- **PRIORITY** on any stream id (idle, open, closed, never seen): the stream table and the memory of closed streams
    are exactly what they were -/
theorem C27_priority (sid : Int) (p : Prio) (c : Conn) : Keeps (receivePriorityFrame sid p) c :=
  ((tbl_prims _).priorityFrame sid p).run c rfl

/-- **WINDOW_UPDATE** on any stream id -/
theorem C27_windowUpdate (sid incr : Int) (c : Conn) : Keeps (receiveWindowUpdateFrame sid incr) c :=
  ((tbl_prims _).windowUpdateFrame sid incr fun _ _ _ h => h).run c rfl

/-- **RST_STREAM** on any stream id -/
theorem C27_rstStream (sid code : Int) (c : Conn) : Keeps (receiveRstStreamFrame sid code) c :=
  ((tbl_prims _).rstFrame sid code).run c rfl

/-- frames of unknown type, PING, and ALTSVC likewise -/
theorem C27_other (rf : RFrame) (c : Conn)
    (h : (∃ t fl sid body, rf.frame = .ext t fl sid body) ∨ (∃ a p, rf.frame = .ping a p) ∨
         (∃ sid o f, rf.frame = .altsvc sid o f)) : Keeps (dispatch rf) c := by
  unfold Keeps dispatch
  rcases h with ⟨t, fl, sid, body, hf⟩ | ⟨a, p, hf⟩ | ⟨sid, o, f, hf⟩ <;> rw [hf]
  · exact rfl
  · exact ((tbl_prims _).pingFrame a p).run c rfl
  · exact ((tbl_prims _).altsvcFrame sid o f).run c rfl

/-- a header block spread over more than CONTINUATION_BACKLOG frames is a connection error; as long as no error is
    raised the backlog holds at most CONTINUATION_BACKLOG frames -/
theorem C27_continuation_cap (hb : List Frame) (f : RFrame) (h : (hb.length : Int) ≤ CONTINUATION_BACKLOG) :
    (∀ e, (FrameBuffer.stepHeaderBuffer hb f).1 = .error e → e = mkExc .ProtocolError) ∧
    ((∀ e, (FrameBuffer.stepHeaderBuffer hb f).1 ≠ .error e) →
      ((FrameBuffer.stepHeaderBuffer hb f).2.length : Int) ≤ CONTINUATION_BACKLOG) :=
  ⟨fun e he => by
    rcases stepHeaderBuffer_cases hb f with h' | ⟨_, h'⟩ | ⟨_, _, h'⟩ | ⟨_, _, h'⟩ | ⟨_, _, _, _, h', _⟩ <;>
      rw [h'] at he
    · cases he; rfl
    all_goals simp at he,
   fun _ => stepHeaderBuffer_cap hb f h⟩

/-- the decoder's limit is the acknowledged local MAX_HEADER_LIST_SIZE… -/
theorem C27_limit_follows_ack (changes : List (Int × Option Int × Int)) (c : Conn) (old : Option Int) (new : Int)
    (h : findChange changes SettingCodes.MAX_HEADER_LIST_SIZE = some (old, new)) :
    (localOtherChanges changes c).decMaxHeaderList = new := by
  rw [localOtherChanges_eq, h]

/-- …and a header list the decoder reports as larger than that is refused with ENHANCE_YOUR_CALM -/
theorem C27_oversized (c : Conn) (rest : List DecRes) (block : Bytes) (h : c.hp.decOracle = .oversized :: rest) :
    ∃ c', decodeHeaders block c =
      (.error (.h2 .DenialOfServiceError (some ErrorCodes.ENHANCE_YOUR_CALM) none []), c') := by
  unfold decodeHeaders
  simp only [bind, M.bind, zoom, Hp.decode, h]
  exact ⟨_, rfl⟩

/-- the memory of closed streams is within its cap -/
def CC (c : Conn) : Prop := c.closedStreams.length ≤ MAX_CLOSED_STREAMS.toNat

/-- two blocks write the memory of closed streams, both through `closedInsert` -/
theorem prims_CC : ApiPrims CC where
  openStreams r := .of_state fun c h => (C27_openStreams_cap r c h).1
  refusePushedStream p := .of_state fun c h => (C27_refuse_cap p c h).1

/-- **bounded in every reachable state**: whatever calls and whatever bytes came before — connection errors included —
    the memory of closed streams holds at most MAX_CLOSED_STREAMS entries and the backlog of a header block under
    assembly at most CONTINUATION_BACKLOG frames -/
theorem C27_bounded_every_history (cfg : Config) (c : Conn) (h : C29.Reachable cfg c) :
    c.closedStreams.length ≤ MAX_CLOSED_STREAMS.toNat ∧ (c.fb.headersBuffer.length : Int) ≤ CONTINUATION_BACKLOG := by
  constructor
  · refine prims_CC.every_history (fun _ _ h => h) (fun _ _ h => h) (fun _ _ h => h) cfg ?_ c h
    cases hc : cfg.client <;> simp [CC, Conn.init, hc]
  · have hP : ApiPrims HC := {}
    refine every_history (hP.callsKeep (hP.sendData fun _ _ h => h)) (fun d c _ => receiveData_hc d c) (fun _ _ h => h)
      cfg ?_ c h
    cases hc : cfg.client <;> simp [HC, HbCap, Conn.init, hc, FrameBuffer.init, CONTINUATION_BACKLOG]

/-- **a closed connection takes no new streams**: whatever bytes arrive on a CLOSED connection — HEADERS on ever new
    stream ids included — every stream id in the table afterwards was in the table before (entries may leave: counting
    the open streams cleans closed ones out), and the connection stays closed.  (Every handler asks the connection
    state machine before it touches the table; mutant C27-e, which created the stream first, grew the table by one
    idle stream per refused frame.) -/
theorem C27_closed_connection_takes_no_stream (c : Conn) (d : Bytes) (hc : c.cstate = .CLOSED) :
    (step c (.recv d)).1.cstate = .CLOSED ∧
    ∀ e ∈ (step c (.recv d)).1.streams, ∃ e0 ∈ c.streams, e0.1 = e.1 := by
  rw [step_recv]
  exact receiveData_closed_table d c hc

/-- so the table of a closed connection never grows, however many deliveries follow -/
theorem C27_closed_table_never_grows (c : Conn) (ds : List Bytes) (hc : c.cstate = .CLOSED) :
    ∀ e ∈ (ds.foldl (fun c d => (step c (.recv d)).1) c).streams, ∃ e0 ∈ c.streams, e0.1 = e.1 := by
  induction ds generalizing c with
  | nil => intro e he; exact ⟨e, he, rfl⟩
  | cons d t ih =>
    intro e he
    have h1 := C27_closed_connection_takes_no_stream c d hc
    obtain ⟨e1, he1, h11⟩ := ih (step c (.recv d)).1 h1.1 e he
    obtain ⟨e0, he0, h00⟩ := h1.2 e1 he1
    exact ⟨e0, he0, h00.trans h11⟩

end H2.C27
