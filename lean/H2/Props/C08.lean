/-
  C08 — the library refuses to emit messages that violate HTTP/2 message rules.

  Shape-level statements are decided over the transition table regenerated
  from stream.py, for well-formed shapes (`Good sh` is a premise, see Proofs/Shapes);
  connection-level statements are about the hand model.
-/
import H2.Proofs.HeaderSend
import H2.Proofs.Keeps
import H2.Proofs.Shapes

namespace H2.C08
open H2 H2.Gen H2.Conn

abbrev accepted (sh : Shape) (i : StreamInputs) : Bool := okStep sh i

/-- what the table asks of a well-formed shape before it accepts a header-carrying send input (and, for a
    second final header block, what the step sets) -/
def sendRule (sh : Shape) : StreamInputs → Bool
  | .SEND_HEADERS => !sh.trailersSent && (!sh.headersSent || (stepShape sh .SEND_HEADERS).2.trailersSent)
  | .SEND_INFORMATIONAL_HEADERS => !sh.headersSent && !sh.trailersSent
  | .SEND_PUSH_PROMISE => sh.client != some true
  | _ => true

/-- the one sweep over the table for the header rules on the send side; the property theorems below read their
    clauses off `sendRule` -/
theorem send_rules : ∀ sh i, (!Good sh || (!accepted sh i || sendRule sh i)) = true :=
  forall_good_input (by decide +kernel)

/-- a stream whose role is "client" never accepts SEND_PUSH_PROMISE, in any state -/
theorem C08_client_never_pushes : ∀ sh, (!Good sh || sh.client != some true || !accepted sh .SEND_PUSH_PROMISE) = true := by
  intro sh
  have h := send_rules sh .SEND_PUSH_PROMISE
  revert h
  simp only [sendRule]
  cases Good sh <;> cases accepted sh .SEND_PUSH_PROMISE <;> simp

/-- once trailers were sent, no further header block (final or informational) is accepted -/
theorem C08_no_headers_after_trailers : ∀ sh, (!Good sh || !sh.trailersSent ||
    (!accepted sh .SEND_HEADERS && !accepted sh .SEND_INFORMATIONAL_HEADERS)) = true := by
  intro sh
  have h1 := send_rules sh .SEND_HEADERS
  have h2 := send_rules sh .SEND_INFORMATIONAL_HEADERS
  revert h1 h2
  simp only [sendRule]
  cases Good sh <;> cases accepted sh .SEND_HEADERS <;> cases accepted sh .SEND_INFORMATIONAL_HEADERS <;>
    simp +contextual

/-- informational responses are refused once the final response headers were sent -/
theorem C08_no_informational_after_final : ∀ sh, (!Good sh || !sh.headersSent ||
    !accepted sh .SEND_INFORMATIONAL_HEADERS) = true := by
  intro sh
  have h := send_rules sh .SEND_INFORMATIONAL_HEADERS
  revert h
  simp only [sendRule]
  cases Good sh <;> cases accepted sh .SEND_INFORMATIONAL_HEADERS <;> simp +contextual

theorem tgt_sendClosed (st : StreamState) (i : StreamInputs) (h : st = .HALF_CLOSED_LOCAL ∨ st = .CLOSED) :
    tgt st i = .HALF_CLOSED_LOCAL ∨ tgt st i = .CLOSED := by
  rcases h with rfl | rfl <;> cases i <;> first | exact .inl rfl | exact .inr rfl

/-- the send side of a stream never re-opens: after END_STREAM was sent (half-closed(local) or closed) no DATA,
    END_STREAM or header block is accepted, and *no input whatsoever* (in particular no received frame) takes the
    stream back to a state where it could send -/
theorem C08_send_side_stays_closed : ∀ sh i, (!Good sh ||
    !(sh.state == .HALF_CLOSED_LOCAL || sh.state == .CLOSED) ||
    (((stepShape sh i).2.state == .HALF_CLOSED_LOCAL || (stepShape sh i).2.state == .CLOSED) &&
     !accepted sh .SEND_DATA && !accepted sh .SEND_END_STREAM && !accepted sh .SEND_HEADERS &&
     !accepted sh .SEND_INFORMATIONAL_HEADERS)) = true := by
  -- read off the two rows of the table: the flags (and `Good`) play no part
  intro sh i
  cases Good sh
  · rfl
  cases hs : sh.state == .HALF_CLOSED_LOCAL || sh.state == .CLOSED
  · rfl
  have hst : sh.state = .HALF_CLOSED_LOCAL ∨ sh.state = .CLOSED := by simpa using hs
  have hr : ∀ j, rowRefuses sh.state j = true → accepted sh j = false := fun _ => okStep_false_of_rowRefuses
  have ht : (stepShape sh i).2.state = .HALF_CLOSED_LOCAL ∨ (stepShape sh i).2.state = .CLOSED := by
    rcases stepShape_state sh i with h | h
    · rw [h]; exact tgt_sendClosed _ i hst
    · exact .inr h
  have ha : accepted sh .SEND_DATA = false ∧ accepted sh .SEND_END_STREAM = false ∧
      accepted sh .SEND_HEADERS = false ∧ accepted sh .SEND_INFORMATIONAL_HEADERS = false := by
    revert hr
    rcases hst with h | h <;> rw [h] <;> exact fun hr => ⟨hr _ rfl, hr _ rfl, hr _ rfl, hr _ rfl⟩
  rcases ht with h | h <;> simp [h, ha]

/-- trailers: a second final header block is only ever accepted as trailers, i.e. after `headersSent`
    the accepted SEND_HEADERS sets `trailersSent` (and the stream method then insists on END_STREAM) -/
theorem C08_second_headers_are_trailers : ∀ sh, (!Good sh || !sh.headersSent || !accepted sh .SEND_HEADERS ||
    (stepShape sh .SEND_HEADERS).2.trailersSent) = true := by
  intro sh
  have h := send_rules sh .SEND_HEADERS
  revert h
  simp only [sendRule]
  cases Good sh <;> cases accepted sh .SEND_HEADERS <;> cases sh.headersSent <;> simp +contextual

/-- **DATA / END_STREAM before the final headers (partial)**: on a well-formed stream where this endpoint is the client,
    the request headers have been sent — the clause of `Good` for the client role (`Good.sent_of_client`); whether
    DATA or END_STREAM is accepted plays no part, and nothing is shown about their refusal.  For the *server* role
    the statement is false of the library (known finding D17b), see the witness below. -/
theorem C08_data_after_headers_partial : ∀ sh, (!Good sh || sh.client != some true ||
    !(accepted sh .SEND_DATA || accepted sh .SEND_END_STREAM) || sh.headersSent) = true := by
  intro sh
  cases hg : Good sh
  · rfl
  · have := Good.sent_of_client hg
    revert this
    cases sh.client != some true <;> cases sh.headersSent <;> simp

theorem C08_server_data_before_headers_witness :
    Good { state := .OPEN, client := some false, headersReceived := true } = true ∧
    accepted { state := .OPEN, client := some false, headersReceived := true } .SEND_DATA = true := by decide

/-! ### a refused `send_headers` does not count as headers sent -/

/-- the three fields `send_headers` saves before the transition and restores when the block is refused;
    an input the table itself refuses closes the stream (that is `process_input`'s documented reaction) -/
def frozen (a b : Shape) : Bool :=
  b.headersSent == a.headersSent && b.trailersSent == a.trailersSent && (b.state == a.state || b.state == .CLOSED)

theorem refused_frozen {sh : Shape} {i : StreamInputs} (h : okStep sh i = false) : frozen sh (stepShape sh i).2 = true := by
  rcases (stepShape_cases sh i).2 with ⟨_, _, hs, _⟩ | ⟨_, _, hs⟩
  · simp [okStep, hs] at h
  · simp [frozen, hs]

theorem sendHeadersAs_refused (input : StreamInputs) (cfg : Config) (hs : List Header) (es pp : Bool) (st : Stream × Hp)
    (hin : input = .SEND_HEADERS ∨ (input = .SEND_INFORMATIONAL_HEADERS ∧ es = false)) :
    wp (Stream.sendHeadersAs input cfg hs es pp) (fun _ _ => True)
      (fun _ t => frozen st.1.sm.sh t.1.sm.sh = true) st := by
  simp only [Stream.sendHeadersAs, onStream]
  wps
  apply wp_processInput_rule
  · intro evs sh hstep
    refine wp_mono ((Keeps.guardedHeaderBlocks (P := (· = _)) cfg hs es pp evs).run _ rfl) ?_ ?_
    · intro blocks t ht
      cases es with
      | false => simp only [Bool.false_eq_true, if_false]; wps
      | true =>
        -- END_STREAM follows: only on final headers, and the table accepts it there
        obtain rfl : input = .SEND_HEADERS := hin.elim id fun h => nomatch h.2
        simp only [if_true]
        wps
        rw [ht]
        exact wp_processInput_rule _ _ (fun _ _ _ => trivial) fun _ _ _ hbad _ =>
          absurd (tbl_end_after_headers hstep) (ne_true_of_eq_false hbad)
    · intro e t _
      simp [frozen, Stream.restoreSaved]
  · intro e sh _ hbad hsh
    subst hsh
    exact refused_frozen hbad

/-- **whenever `H2Stream.send_headers` raises** — informational with END_STREAM, a transition the table refuses,
    trailers without END_STREAM, header validation, the encoder, fragmentation — the stream's `headers_sent`
    and `trailers_sent` are what they were and its state is what it was (or CLOSED when the table refused the
    input): a refused header block never makes DATA / END_STREAM / trailers acceptable afterwards -/
theorem C08_refused_headers_leave_stream_state (cfg : Config) (hs : List Header) (es pp : Bool) (st : Stream × Hp) :
    wp (Stream.sendHeaders cfg hs es pp) (fun _ _ => True)
      (fun _ t => frozen st.1.sm.sh t.1.sm.sh = true) st := by
  have hrefl : frozen st.1.sm.sh st.1.sm.sh = true := by simp [frozen]
  unfold Stream.sendHeaders
  rw [wp_bind, wp_getS]
  -- the `do` block shares what follows the test for an informational response
  extract_lets rest
  show wp _ ?Q ?E st
  have fin : ∀ informational, wp (rest informational) ?Q ?E st := by
    intro informational
    simp only [rest]
    wps
    refine ite_intro (fun _ => hrefl) fun hie => sendHeadersAs_refused _ _ _ _ _ _ ?_
    cases informational
    · exact .inl rfl
    · exact .inr ⟨rfl, by simpa using hie⟩
  wps
  refine ite_intro (fun _ => ?_) fun _ => fin false
  cases isInformationalResponse hs with
  | error e => exact hrefl
  | ok b => exact fin b

/-- on an idle, reserved (local or remote) or closed stream — where a refused header block leaves the stream, see
    `C08_refused_headers_leave_stream_state` — DATA and END_STREAM are refused -/
theorem C08_no_data_from_unopened_states : ∀ sh, (!(sh.state == .IDLE || sh.state == .RESERVED_LOCAL ||
    sh.state == .RESERVED_REMOTE || sh.state == .CLOSED) ||
    (!accepted sh .SEND_DATA && !accepted sh .SEND_END_STREAM)) = true := by
  intro sh
  have h : ∀ i, rowRefuses sh.state i = true → accepted sh i = false := fun _ => okStep_false_of_rowRefuses
  revert h
  cases sh.state <;> intro h <;> first | rfl | simp [h .SEND_DATA rfl, h .SEND_END_STREAM rfl]

/-- non-vacuity: response headers on a promised stream are accepted by the table (so the restore is what keeps
    the stream reserved when the block is then refused), and restoring really brings the state back -/
example : accepted { state := .RESERVED_LOCAL, client := some false, headersReceived := true } .SEND_HEADERS = true ∧
    (stepShape { state := .RESERVED_LOCAL, client := some false, headersReceived := true } .SEND_HEADERS).2.state
      = .HALF_CLOSED_REMOTE := by decide

/-! ### connection level -/

/-- a server cannot open a stream with HEADERS: `send_headers` on an id that is not a live stream raises and
    changes nothing -/
theorem C08_server_cannot_open (c : Conn) (sid : Int) hs es pw pd pe (hsrv : c.cfg.client = false)
    (hno : hasStream c sid = false) :
    wp (sendHeaders sid hs es pw pd pe) (fun _ _ => False) (fun _ c' => c' = c) c := by
  unfold sendHeaders
  wps
  simp only [hsrv, Bool.not_false, if_true]
  -- with priority arguments a server is refused at once; without, the lookup raises before anything is written
  refine ite_intro (fun _ => trivial) fun _ => ?_
  rw [wp_getStreamById_lookup, hno, if_neg Bool.false_ne_true]

/-- a server can never send PRIORITY -/
theorem C08_server_no_priority (c : Conn) (sid : Int) w d e (hsrv : c.cfg.client = false) :
    wp (prioritize sid w d e) (fun _ _ => False) (fun _ c' => c' = c) c := by
  simp only [prioritize]
  wps
  simp [hsrv]

/-- a client can never advertise alt-svc -/
theorem C08_client_no_altsvc (c : Conn) f o sid (hcl : c.cfg.client = true) :
    wp (advertiseAlternativeService f o sid) (fun _ _ => False) (fun _ c' => c' = c) c := by
  unfold advertiseAlternativeService
  wps
  -- after the two argument checks the role is checked, before the state machine is asked
  refine ite_intro (fun _ => trivial) fun _ => ite_intro (fun _ => trivial) fun _ => ?_
  exact (if_pos hcl).mpr trivial

/-- outside SERVER_OPEN `push_stream` never returns: whatever the peer's ENABLE_PUSH, the connection state machine
    has a SEND_PUSH_PROMISE transition in that state only.  (The hypothesis is on the state, not on the role: no
    invariant here says that a client is never in SERVER_OPEN.) -/
theorem C08_client_no_push (c : Conn) sid p hs (hst : c.cstate ≠ .SERVER_OPEN) :
    wp (pushStream sid p hs) (fun _ _ => False) (fun _ _ => True) c := by
  have htab : connTable c.cstate .SEND_PUSH_PROMISE = none := by
    cases h : c.cstate <;> first | rfl | exact absurd h hst
  unfold pushStream
  wps
  -- the peer's ENABLE_PUSH is read first; then the state machine is asked, and refuses
  cases c.remoteSettings.enablePush with
  | none => trivial
  | some ep =>
    wps
    refine ite_intro (fun _ => trivial) fun _ => ?_
    rw [wp_connInput_err _ _ htab]
    trivial

/-- non-vacuity -/
example : accepted { state := .OPEN, client := some true, headersSent := true } .SEND_DATA = true ∧
    accepted { state := .HALF_CLOSED_LOCAL, client := some true, headersSent := true } .SEND_DATA = false := by decide

end H2.C08
