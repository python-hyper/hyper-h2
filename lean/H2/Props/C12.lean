/-
  C12 — SETTINGS values are validated with the RFC-mandated error codes.

  `validate_setting` and `guard_increment_window` are the reference definitions of Gen/Windows, proved equal on every
  run to the functions regenerated from settings.py / utilities.py (Gen/Bridge); the theorems below are statements
  over every identifier and every value that is not negative (`C12_guard`: over all of ℤ × ℤ), not samples.
-/
import H2.Props.C29

namespace H2.C12
open H2 H2.Gen H2.Conn

/-- RFC 7540 section 6.5.2 / RFC 8441 section 3, written from the RFC text -/
def rfcVerdict (id v : Int) : Int :=
  if id = 2 then (if v = 0 ∨ v = 1 then 0 else 1)                       -- ENABLE_PUSH: PROTOCOL_ERROR
  else if id = 4 then (if v ≤ 2147483647 then 0 else 3)                 -- INITIAL_WINDOW_SIZE: FLOW_CONTROL_ERROR
  else if id = 5 then (if 16384 ≤ v ∧ v ≤ 16777215 then 0 else 1)       -- MAX_FRAME_SIZE: PROTOCOL_ERROR
  else if id = 8 then (if v = 0 ∨ v = 1 then 0 else 1)                   -- ENABLE_CONNECT_PROTOCOL: PROTOCOL_ERROR
  else 0                                                                  -- everything else, known or unknown: accepted

/-- **C12**: for every identifier and every value that can appear on the wire (values are unsigned)
    the library's verdict is the RFC's. -/
theorem C12_validate (id v : Int) (hv : 0 ≤ v) : validate_setting id v = .ok (rfcVerdict id v) := by
  rw [validate_setting_eq]
  unfold rfcVerdict
  -- the two differ in what `hv` makes dead: the lower bound of INITIAL_WINDOW_SIZE, and the one refusal of
  -- MAX_HEADER_LIST_SIZE (6), for which the RFC has no rule
  have h4 : (0 ≤ v ∧ v ≤ 2147483647) ↔ v ≤ 2147483647 := ⟨And.right, fun h => ⟨hv, h⟩⟩
  have h6 : ¬ v < 0 := Int.not_lt.mpr hv
  simp only [h4, h6, if_false]
  by_cases h : id = 6
  · subst h; rfl
  · simp only [h, if_false]

/-- every in-range value and every unknown identifier is accepted -/
theorem C12_accepts (id v : Int) (hv : 0 ≤ v) (h : rfcVerdict id v = 0) (s : Settings) :
    ∃ s', Settings.setItem s id v = .ok s' := by
  unfold Settings.setItem
  rw [C12_validate id v hv, h]
  exact ⟨_, rfl⟩

/-- an out-of-range value is rejected with InvalidSettingsValueError carrying exactly the RFC code -/
theorem C12_rejects (id v : Int) (hv : 0 ≤ v) (h : rfcVerdict id v ≠ 0) (s : Settings) :
    Settings.setItem s id v = .error (.h2 .InvalidSettingsValueError (some (rfcVerdict id v)) none []) := by
  unfold Settings.setItem
  rw [C12_validate id v hv]
  simp [h]

/-- a whole received SETTINGS frame: the first out-of-range entry (in frame order) decides -/
def firstVerdict : List (Int × Int) → Int
  | [] => 0
  | (k, v) :: rest => if rfcVerdict k v ≠ 0 then rfcVerdict k v else firstVerdict rest

theorem C12_update (items : List (Int × Int)) (hv : ∀ kv ∈ items, 0 ≤ kv.2) (s : Settings) :
    (firstVerdict items = 0 → ∃ s', (Settings.update s items).1 = .ok s') ∧
    (firstVerdict items ≠ 0 →
      ∃ s', Settings.update s items = (.error (.h2 .InvalidSettingsValueError (some (firstVerdict items)) none []), s')) := by
  induction items generalizing s with
  | nil => simp [firstVerdict, Settings.update]
  | cons kv rest ih =>
    obtain ⟨k, v⟩ := kv
    have hv0 : 0 ≤ v := hv (k, v) (by simp)
    have hrest : ∀ kv ∈ rest, 0 ≤ kv.2 := fun kv h => hv kv (by simp [h])
    by_cases h : rfcVerdict k v = 0
    · obtain ⟨s1, hs1⟩ := C12_accepts k v hv0 h s
      simp only [firstVerdict, h, ne_eq, not_true_eq_false, if_false, Settings.update, hs1]
      exact ih hrest s1
    · simp only [firstVerdict, h, ne_eq, not_false_eq_true, if_true, Settings.update, C12_rejects k v hv0 h s]
      constructor
      · intro h'; simp_all
      · intro _; exact ⟨s, rfl⟩

/-- **C12, window overflow**: `guard_increment_window` refuses exactly the sums above 2^31-1, so an
    INITIAL_WINDOW_SIZE delta (or WINDOW_UPDATE) that would push a window past it is a FlowControlError -/
theorem C12_guard (cur incr : Int) :
    guard_increment_window cur incr =
      (if cur + incr > 2147483647 then .error (.h2 .FlowControlError) else .ok (cur + incr)) :=
  guard_increment_window_eq cur incr

/-- FlowControlError carries FLOW_CONTROL_ERROR (3): read off the generated exception table (the statement of
    `C04.C04_code`) -/
theorem C12_flow_code : ExcClass.FlowControlError.classCode = some 3 := by decide

/-- `update_settings`'s own check of a pair whose fields are in the wire range: `_validate_setting`'s verdict decides -/
theorem validateSettingsList_cons_eq (k v : Int) (rest : List (Int × Int))
    (h : 0 ≤ k ∧ k ≤ 65535 ∧ 0 ≤ v ∧ v ≤ 4294967295) :
    validateSettingsList ((k, v) :: rest) =
      if rfcVerdict k v ≠ 0 then .error (.h2 .InvalidSettingsValueError (some (rfcVerdict k v)) none [])
      else validateSettingsList rest := by
  have hr : (decide (0 ≤ k) && decide (k ≤ 65535) && decide (0 ≤ v) && decide (v ≤ 4294967295)) = true := by
    simp [h.1, h.2.1, h.2.2.1, h.2.2.2]
  simp only [validateSettingsList, C12_validate k v h.2.2.1, hr, Bool.not_true, Bool.and_false, Bool.false_eq_true,
    if_false, bne_iff_ne]

/-- local requests: `update_settings` pre-validates with the same verdicts (plus the wire range of the fields) -/
theorem C12_local (items : List (Int × Int)) (hr : ∀ kv ∈ items, 0 ≤ kv.1 ∧ kv.1 ≤ 65535 ∧ 0 ≤ kv.2 ∧ kv.2 ≤ 4294967295) :
    (firstVerdict items = 0 → validateSettingsList items = .ok ()) ∧
    (firstVerdict items ≠ 0 →
      validateSettingsList items = .error (.h2 .InvalidSettingsValueError (some (firstVerdict items)) none [])) := by
  induction items with
  | nil => exact ⟨fun _ => rfl, fun h => absurd rfl h⟩
  | cons kv rest ih =>
    obtain ⟨hkv, hrest⟩ := List.forall_mem_cons.mp hr
    rw [validateSettingsList_cons_eq kv.1 kv.2 rest hkv, firstVerdict]
    split
    · exact ⟨fun h => absurd h ‹_›, fun _ => rfl⟩
    · exact ih hrest

/-! ### along every history -/

/-- every value a settings object holds — in force or waiting for its acknowledgement — passed `_validate_setting` -/
def AllValid (s : Settings) : Prop := ∀ e ∈ s, ∀ x ∈ e.2, validB e.1 x = true

theorem allValid_of_ok (s : Settings) (h : SettingsOk s) : AllValid s :=
  fun e he => (entryOk_of_mem h.entries (k := e.1) (l := e.2) he).2.2.1

/-- **no invalid value is ever stored**: in every state reachable by any public calls and any received bytes, every
    value in the local and in the remote settings object (current or pending) is one `_validate_setting` accepts —
    `update_settings` and `_receive_settings_frame` check before they store, an initial value comes from the
    library's own defaults, and acknowledgement only moves values -/
theorem C12_stored_settings_valid_every_history (cfg : Config) (c : Conn) (h : C29.Reachable cfg c) :
    AllValid c.localSettings ∧ AllValid c.remoteSettings := by
  -- `Inv2` is `Inv` and `SO`; `Inv` is `WF` and the header buffer; `WF` is `WFb` and the streams
  obtain ⟨⟨⟨hw, _⟩, _⟩, _⟩ := C29.C29_reachable_invariant cfg c h
  exact ⟨allValid_of_ok _ hw.ls, allValid_of_ok _ hw.rs⟩

/-- non-vacuity / boundary witnesses, evaluated -/
example : validate_setting 4 2147483647 = .ok 0 ∧ validate_setting 4 2147483648 = .ok 3 ∧
    validate_setting 5 16383 = .ok 1 ∧ validate_setting 5 16384 = .ok 0 ∧ validate_setting 5 16777215 = .ok 0 ∧
    validate_setting 5 16777216 = .ok 1 ∧ validate_setting 2 2 = .ok 1 ∧ validate_setting 8 2 = .ok 1 ∧
    validate_setting 65535 4294967295 = .ok 0 := by
  refine ⟨?_, ?_, ?_, ?_, ?_, ?_, ?_, ?_, ?_⟩ <;> rfl

end H2.C12
