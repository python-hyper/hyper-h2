/-
  C05 — automatic window management never deadlocks and never over-credits.

  All statements are about `H2.Gen.WindowManager` — the reference definitions of H2/Gen/Windows, proved equal on every
  run to the functions regenerated from /repo/src/h2/windows.py (tools/py2lean.py, H2/Gen/Bridge) — and about
  `settingsDelta`, the model of H2Stream._inbound_flow_control_change_from_settings.
  A ghost ledger records what the application has received / acknowledged and
  what WINDOW_UPDATE increments were emitted.
-/
import H2.Proofs.History

namespace H2.C05
open H2 H2.Gen

/-- one step of a window manager's life under the automatic discipline -/
inductive WOp where
  | consumed (n : Int)        -- DATA with flow-controlled length n arrived (window_consumed)
  | processed (n : Int)       -- the application acknowledged n bytes (process_bytes)
  | setting (v : Int)         -- an acknowledged local INITIAL_WINDOW_SIZE change to v
deriving Repr

structure G where
  w : WindowManager
  iws : Int               -- the acknowledged INITIAL_WINDOW_SIZE in force
  outstanding : Int       -- received and not yet acknowledged
  acked : Int
  emitted : Int           -- sum of the increments returned by process_bytes (each becomes one WINDOW_UPDATE)
  held : Int              -- bytes acknowledged while the window was *not* credited back: acked - emitted
deriving Repr

def okVal : Except PyErr (Option Int) → Option (Option Int)
  | .ok v => some v
  | .error _ => none

/-- H2Stream._inbound_flow_control_change_from_settings on the window manager alone (written beside
    `Stream.inboundFlowControlChange`; no lemma links the two) -/
def settingsDelta (w : WindowManager) (delta : Int) : Except PyErr (Option Int) × WindowManager :=
  let newMax := w.max_window_size + delta
  let r := w.window_opened delta
  match r.1 with
  | .ok v => (.ok v, { r.2 with max_window_size := newMax })
  | .error e => (.error e, r.2)

def stepG (g : G) : WOp → Option G
  | .consumed n => if 0 ≤ n then
      let r := g.w.window_consumed n
      (okVal r.1).map fun _ => { g with w := r.2, outstanding := g.outstanding + n }
    else none
  | .processed n => if 0 ≤ n ∧ n ≤ g.outstanding then
      let r := g.w.process_bytes n
      (okVal r.1).map fun v => { g with w := r.2, outstanding := g.outstanding - n, acked := g.acked + n,
                                        emitted := g.emitted + v.getD 0, held := g.held + n - v.getD 0 }
    else none
  | .setting v => if 0 ≤ v ∧ v ≤ 2147483647 then
      let r := settingsDelta g.w (v - g.iws)
      (okVal r.1).map fun _ => { g with w := r.2, iws := v }
    else none

def runG : G → List WOp → Option G
  | g, [] => some g
  | g, op :: ops => (stepG g op).bind fun g' => runG g' ops

def init (iws : Int) : G :=
  { w := { max_window_size := iws, current_window_size := iws, bytes_processed := 0 },
    iws := iws, outstanding := 0, acked := 0, emitted := 0, held := 0 }

def WInv (g : G) : Prop :=
  g.w.max_window_size = g.iws ∧ 0 ≤ g.iws ∧ g.iws ≤ 2147483647 ∧
  0 ≤ g.w.bytes_processed ∧ 0 ≤ g.outstanding ∧
  g.emitted + g.w.bytes_processed = g.acked ∧
  g.w.current_window_size + g.w.bytes_processed + g.outstanding = g.w.max_window_size

theorem init_inv (iws : Int) (h0 : 0 ≤ iws) (h1 : iws ≤ 2147483647) : WInv (init iws) := by
  simp [WInv, init, h0, h1]

theorem settingsDelta_eq (w : WindowManager) (d : Int) :
    settingsDelta w d =
      if 2147483647 < w.current_window_size + d then (.error (.h2 .FlowControlError), w)
      else (.ok none, { w with current_window_size := w.current_window_size + d, max_window_size := w.max_window_size + d }) := by
  unfold settingsDelta
  rw [WindowManager.window_opened_eq]
  split <;> rfl

theorem inv_step (g : G) (op : WOp) (g' : G) (h : WInv g) (hs : stepG g op = some g') : WInv g' := by
  unfold WInv at *
  cases op with
  | consumed n =>
    -- a frame that fits moves `n` bytes from the window to `outstanding`
    simp only [stepG, WindowManager.window_consumed_eq] at hs
    split at hs
    · split at hs
      · cases hs
      · cases hs
        dsimp only
        omega
    · cases hs
  | setting v =>
    -- window and maximum move by the same `v - iws`
    simp only [stepG, settingsDelta_eq] at hs
    split at hs
    · split at hs
      · cases hs
      · cases hs
        dsimp only
        omega
    · cases hs
  | processed n =>
    -- `n` bytes move from `outstanding` to `bytes_processed`; what `process_bytes` returns moves on to the window
    obtain ⟨v, w', he, hmax, hcur, hbp⟩ := WindowManager.process_bytes_spec g.w n
    simp only [stepG, he, okVal, Option.map_some] at hs
    split at hs
    · cases hs
      dsimp only
      rcases hbp with ⟨hb, hv⟩ | ⟨hb, hv, _⟩ <;> omega
    · cases hs

theorem inv_run (ops : List WOp) (g g' : G) (h : WInv g) (hr : runG g ops = some g') : WInv g' := by
  induction ops generalizing g with
  | nil => simp [runG] at hr; subst hr; exact h
  | cons op ops ih =>
    simp only [runG] at hr
    cases hs : stepG g op with
    | none => simp [hs] at hr
    | some g1 => simp [hs] at hr; exact ih g1 (inv_step g op g1 h hs) hr

/-- **C05, never over-credits**: for every history under the discipline, the WINDOW_UPDATE increments
    emitted never exceed the bytes acknowledged, the advertised window never exceeds its maximum, and the maximum
    (the acknowledged INITIAL_WINDOW_SIZE, by `WInv`) never exceeds 2^31-1. -/
theorem C05_no_overcredit (iws : Int) (h0 : 0 ≤ iws) (h1 : iws ≤ 2147483647) (ops : List WOp) (g : G)
    (hr : runG (init iws) ops = some g) :
    g.emitted ≤ g.acked ∧ g.w.current_window_size ≤ g.w.max_window_size ∧ g.w.max_window_size ≤ 2147483647 := by
  have h := inv_run ops (init iws) g (init_inv iws h0 h1) hr
  unfold WInv at h
  omega

/-- **C05, no stall (partial)**: whenever the last step is an acknowledgement that leaves nothing
    outstanding, the advertised window is positive (if its maximum is).  The restriction to histories
    *ending in an acknowledgement* is essential: see `C05_stall_after_shrink`. -/
theorem C05_no_stall_partial (g : G) (n : Int) (g' : G) (h : WInv g) (hs : stepG g (.processed n) = some g')
    (hall : g'.outstanding = 0) (hmax : 0 < g'.w.max_window_size) : 0 < g'.w.current_window_size := by
  obtain ⟨_, _, _, _, _, _, hsum⟩ := h
  obtain ⟨v, w', he, hmax', hcur, hbp⟩ := WindowManager.process_bytes_spec g.w n
  simp only [stepG, he, okVal, Option.map_some] at hs
  split at hs
  · cases hs
    dsimp only at hall hmax ⊢
    -- nothing outstanding: all that is missing from the window is processed, `current + processed + n = max`.
    -- `process_bytes` hands all of it back (`current' = max`), or keeps it, being nothing or less than half the
    -- maximum (`current' > max / 2`)
    rcases hbp with ⟨_, hv⟩ | ⟨_, hv, hlt⟩ <;> omega
  · cases hs

theorem runG_append (g : G) (l l' : List WOp) : runG g (l ++ l') = (runG g l).bind fun g' => runG g' l' := by
  induction l generalizing g with
  | nil => rfl
  | cons op l ih => simp only [List.cons_append, runG]; cases stepG g op <;> simp [ih]

/-- lifted to whole histories -/
theorem C05_no_stall_histories_partial (iws : Int) (h0 : 0 ≤ iws) (h1 : iws ≤ 2147483647) (ops : List WOp) (n : Int) (g : G)
    (hr : runG (init iws) (ops ++ [.processed n]) = some g)
    (hall : g.outstanding = 0) (hmax : 0 < g.w.max_window_size) : 0 < g.w.current_window_size := by
  rw [runG_append] at hr
  cases hops : runG (init iws) ops with
  | none => simp [hops] at hr
  | some g1 =>
    cases hs : stepG g1 (.processed n) with
    | none => simp [hops, runG, hs] at hr
    | some g2 =>
      simp [hops, runG, hs] at hr; subst hr
      exact C05_no_stall_partial g1 n g2 (inv_run ops _ g1 (init_inv iws h0 h1) hops) hs hall hmax

/-- The full statement of the no-stall clause is FALSE of the code as it is (known finding D19):
    49 bytes received and acknowledged (held below the half-window threshold), then the acknowledged
    INITIAL_WINDOW_SIZE shrinks from 100 to 40: everything is acknowledged, the maximum is 40 > 0,
    the advertised window is -9, and nothing will ever be emitted. -/
theorem C05_stall_after_shrink :
    (runG (init 100) [.consumed 49, .processed 49, .setting 40]).map
      (fun g => (g.outstanding, g.w.max_window_size, g.w.current_window_size)) = some (0, 40, -9) := by
  decide +kernel

/-! ### the connection's window, along every history of the whole connection -/

/-- **the connection-level window never over-credits, in every reachable state** — with nothing assumed of the
    application (it may acknowledge too much, too little, or raise the window by hand): the window advertised to the
    peer never exceeds its maximum, and the maximum never exceeds 2^31-1.  The connection's window manager is only
    ever handed to `window_consumed` (with the length of a parsed DATA frame), `process_bytes` and `window_opened`;
    the latter two keep the two inequalities whatever their argument, `window_consumed` for every argument that is not
    negative, as the length of a parsed frame is -/
theorem C05_conn_window_every_history (cfg : Config) (c : Conn) (h : C29.Reachable cfg c) :
    c.inWM.current_window_size ≤ c.inWM.max_window_size ∧ c.inWM.max_window_size ≤ 2147483647 := by
  refine prims_WI.every_history (fun _ _ h => h) (fun _ _ h => h) (fun _ _ h => h) cfg ?_ c h
  cases hc : cfg.client <;> simp [WI, WMI, Conn.init, hc, client_init_in_window, server_init_in_window]

/-- non-vacuity: a non-trivial history satisfying the hypotheses of the theorems -/
example : (runG (init 65535) [.consumed 40000, .processed 30000, .processed 10000]).map
      (fun g => (g.outstanding, g.emitted, g.w.current_window_size)) = some (0, 40000, 65535) := by
  decide +kernel

end H2.C05
