/-
  C09 — stream identifiers are allocated and checked per RFC 7540 section 5.1.1.
-/
import H2.Proofs.History

namespace H2.C09
open H2 H2.Gen H2.Conn

/-- the parity of the ids this endpoint opens: clients odd, servers even -/
def ownParity (c : Conn) : Int := if c.cfg.client then 1 else 0

/-- watermarks are 0 or an id of the right parity, never above 2^31-1.  True of a fresh connection (`C09_ids_init`);
    `C09_next` uses its first conjunct.  Along histories the first three conjuncts are `C09_marks_every_history`; the
    bound on `highestIn` is not shown to be kept. -/
def IdsOk (c : Conn) : Prop :=
  (c.highestOut = 0 ∨ (c.highestOut % 2 = ownParity c ∧ 0 < c.highestOut)) ∧ c.highestOut ≤ HIGHEST_ALLOWED_STREAM_ID ∧
  (c.highestIn = 0 ∨ (c.highestIn % 2 = 1 - ownParity c ∧ 0 < c.highestIn)) ∧ c.highestIn ≤ HIGHEST_ALLOWED_STREAM_ID

theorem C09_ids_init (cfg : Config) : IdsOk (Conn.init cfg) := by
  unfold IdsOk
  cases h : cfg.client <;> simp [Conn.init, h, HIGHEST_ALLOWED_STREAM_ID]

/-- **get_next_available_stream_id**: the smallest id of the endpoint's parity above every id it has used; once that
    would exceed 2^31-1, NoAvailableStreamIDError — and the state is untouched either way -/
theorem C09_next_of_out (c : Conn) (h : c.highestOut = 0 ∨ (c.highestOut % 2 = ownParity c ∧ 0 < c.highestOut)) :
    wp getNextAvailableStreamId
      (fun n c' => c' = c ∧ n % 2 = ownParity c ∧ c.highestOut < n ∧ n ≤ HIGHEST_ALLOWED_STREAM_ID ∧ 0 < n ∧
        (∀ m, m % 2 = ownParity c → c.highestOut < m → 0 < m → n ≤ m))
      (fun e c' => c' = c ∧ e.isInstance .NoAvailableStreamIDError = true ∧
        (∀ m, m % 2 = ownParity c → c.highestOut < m → 0 < m → HIGHEST_ALLOWED_STREAM_ID < m)) c := by
  unfold getNextAvailableStreamId
  wps
  -- the candidate is the least positive id of this endpoint's parity above the mark, allowed or not
  have hn : ∀ n, n = (if c.highestOut == 0 then (if c.cfg.client then 1 else 2) else c.highestOut + 2) →
      n % 2 = ownParity c ∧ c.highestOut < n ∧ 0 < n ∧
        ∀ m, m % 2 = ownParity c → c.highestOut < m → 0 < m → n ≤ m := by
    intro n hn
    unfold ownParity at h ⊢
    -- the mark zero or not, client or server: linear arithmetic with parities each time
    split at hn <;> rename_i h0 <;> simp only [beq_iff_eq] at h0 <;>
      cases hcl : c.cfg.client <;> simp only [hcl, if_true, if_false, Bool.false_eq_true] at h hn ⊢ <;>
      exact ⟨by omega, by omega, by omega, fun m _ _ _ => by omega⟩
  obtain ⟨hp, hlt, hpos, hleast⟩ := hn _ rfl
  exact ite_intro (fun hbig => ⟨trivial, rfl, fun m a b d => Int.lt_of_lt_of_le hbig (hleast m a b d)⟩)
    fun hok => ⟨trivial, hp, hlt, Int.not_lt.mp hok, hpos, hleast⟩

theorem C09_next (c : Conn) (h : IdsOk c) :
    wp getNextAvailableStreamId
      (fun n c' => c' = c ∧ n % 2 = ownParity c ∧ c.highestOut < n ∧ n ≤ HIGHEST_ALLOWED_STREAM_ID ∧ 0 < n ∧
        (∀ m, m % 2 = ownParity c → c.highestOut < m → 0 < m → n ≤ m))
      (fun e c' => c' = c ∧ e.isInstance .NoAvailableStreamIDError = true ∧
        (∀ m, m % 2 = ownParity c → c.highestOut < m → 0 < m → HIGHEST_ALLOWED_STREAM_ID < m)) c :=
  C09_next_of_out c h.1

/-- **_begin_new_stream**: a stream is opened (or promised) only with an id above every id used in that direction,
    of the parity allowed for it, at most 2^31-1; the watermark then is that id (so ids are strictly increasing).
    A refusal changes nothing. -/
theorem C09_begin (sid : Int) (odd : Bool) (c : Conn) :
    wp (beginNewStream sid odd)
      (fun _ c' =>
        (if streamIdIsOutbound c sid then c.highestOut < sid ∧ c'.highestOut = sid ∧ c'.highestIn = c.highestIn
         else c.highestIn < sid ∧ c'.highestIn = sid ∧ c'.highestOut = c.highestOut) ∧
        sid % 2 = (if odd then 1 else 0) ∧ sid ≤ HIGHEST_ALLOWED_STREAM_ID ∧ hasStream c' sid = true)
      (fun _ c' => c' = c) c := by
  refine wp_beginNewStream_rule sid odd c (fun ow _ wm _ _ _ hlt hpar hle => ?_) fun _ _ => rfl
  -- `putStream` writes the table only
  have h1 := hasStream_putStream c sid { sm := { sid := sid }, maxOutFrame := c.maxOutFrame, outWin := ow, inWM := wm }
  unfold filed
  rw [putStream_eq] at h1 ⊢
  cases ho : streamIdIsOutbound c sid <;> simp only [ho, if_true, Bool.false_eq_true, if_false] at hlt ⊢ <;>
    exact ⟨⟨hlt, trivial, trivial⟩, hpar, hle, h1⟩

/-- what a frame on an id that is not above the watermark turns into (`_receive_frame`'s handler for
    StreamIDTooLowError): a stream error if that stream was reset, a STREAM_CLOSED connection error if it ended
    normally, the PROTOCOL_ERROR connection error otherwise -/
theorem C09_peer_low_id (c : Conn) (sid : Int) (code : Option Int) (evs : List Event) (hmax : 4 ≤ c.maxOutFrame) :
    let e : Exc := .h2 .StreamIDTooLowError code (some sid) evs
    (closedByReset c sid = true →
      wp (frameErrorHandler e)
        (fun r c' => r = [] ∧ c'.sent = c.sent ++ [Frame.rstStream sid ErrorCodes.STREAM_CLOSED])
        (fun e' c' => e' = pErr ∧ c'.cstate = .CLOSED ∧ c'.sent = c.sent) c) ∧
    (closedByReset c sid = false → closedByEnd c sid = true →
      wp (frameErrorHandler e) (fun _ _ => False) (fun e' c' => e' = mkStreamClosed sid ∧ c' = c) c) ∧
    (closedByReset c sid = false → closedByEnd c sid = false →
      wp (frameErrorHandler e) (fun _ _ => False) (fun e' c' => e' = e ∧ c' = c) c) := by
  intro e
  have hsub : ExcClass.isSub .StreamIDTooLowError .StreamClosedError = false := by decide
  refine ⟨?_, ?_, ?_⟩
  · intro hr
    obtain ⟨b, _, heq⟩ := wp_frameErrorHandler_reset c _ code (some sid) evs false hsub hr
      (show 0 ≤ (ErrorCodes.STREAM_CLOSED : Int) ∧ (ErrorCodes.STREAM_CLOSED : Int) < 4294967296 by decide) hmax
    rw [heq]
    cases connTable c.cstate .SEND_RST_STREAM with
    | none => exact ⟨rfl, rfl, rfl⟩
    | some t => exact ⟨rfl, rfl⟩
  -- not reset: what is raised depends on whether the stream is remembered as ended
  all_goals
    intro hr he
    simp only [e, frameErrorHandler, hsub, Bool.false_eq_true, if_false, Option.getD]
    wps
    simp only [hr, he, Bool.false_eq_true, if_false, if_true]
    exact ⟨trivial, trivial⟩

/-- **PRIORITY** for any stream id — idle, open, closed or never used — neither opens nor implicitly closes streams:
    apart from the connection state machine's own state nothing changes (stream table, both watermarks, closed-stream
    memory, windows); a self-dependency is a PROTOCOL_ERROR -/
theorem C09_priority_opens_nothing (sid : Int) (p : Prio) (c : Conn) :
    wp (receivePriorityFrame sid p)
      (fun fe c' => c' = { c with cstate := c'.cstate } ∧ fe.1 = [] ∧ p.dependsOn ≠ sid)
      (fun e c' => c' = { c with cstate := c'.cstate } ∧ e = pErr) c := by
  unfold receivePriorityFrame
  wps
  cases ht : connTable c.cstate .RECV_PRIORITY with
  | none => rw [wp_connInput_err _ _ ht]; exact ⟨rfl, rfl⟩
  | some t =>
    rw [wp_connInput_ok _ _ _ ht]
    by_cases hd : (p.dependsOn == sid) = true
    · rw [if_pos hd]; exact ⟨rfl, rfl⟩
    · rw [if_neg hd]; exact ⟨rfl, rfl, by simpa using hd⟩

/-- **the high-water marks stay in order, in every reachable state**: the highest id this endpoint has used is 0 or an
    id of its own parity, at most 2^31-1; the highest id the peer has used is 0 or an id of the peer's parity.  They are
    written by `_begin_new_stream` after its three checks, by `_refuse_pushed_stream` (an id of the peer's parity above
    the mark) and by the branch of `send_headers` that takes a refused request back -/
theorem C09_marks_every_history (cfg : Config) (c : Conn) (h : C29.Reachable cfg c) :
    c.cfg.client = cfg.client ∧
    (c.highestOut = 0 ∨ (c.highestOut % 2 = ownParity c ∧ 0 < c.highestOut)) ∧ c.highestOut ≤ HIGHEST_ALLOWED_STREAM_ID ∧
    (c.highestIn = 0 ∨ (c.highestIn % 2 = 1 - ownParity c ∧ 0 < c.highestIn)) := by
  have hm : MK cfg.client c := by
    refine prims_MK.every_history (fun _ _ h => h) (fun _ _ h => h) (fun _ _ h => h) cfg ?_ c h
    cases hc : cfg.client <;> simp [MK, Conn.init, hc]
  obtain ⟨h0, h1, h2, h3⟩ := hm
  unfold ownParity parOf HIGHEST_ALLOWED_STREAM_ID at *
  rw [h0]
  exact ⟨rfl, h1, h2, h3⟩

/-- **`get_next_available_stream_id` in every reachable state**: the smallest unused id of this endpoint's parity, or
    NoAvailableStreamIDError once that would pass 2^31-1; the state is untouched either way -/
theorem C09_next_every_history (cfg : Config) (c : Conn) (h : C29.Reachable cfg c) :
    wp getNextAvailableStreamId
      (fun n c' => c' = c ∧ n % 2 = ownParity c ∧ c.highestOut < n ∧ n ≤ HIGHEST_ALLOWED_STREAM_ID ∧ 0 < n ∧
        (∀ m, m % 2 = ownParity c → c.highestOut < m → 0 < m → n ≤ m))
      (fun e c' => c' = c ∧ e.isInstance .NoAvailableStreamIDError = true ∧
        (∀ m, m % 2 = ownParity c → c.highestOut < m → 0 < m → HIGHEST_ALLOWED_STREAM_ID < m)) c :=
  C09_next_of_out c (C09_marks_every_history cfg c h).2.1

/-- **the high-water marks never go down**: whatever is called and whatever arrives — so an id, once used in either
    direction, is never handed out, accepted or promised again (`C09_begin`: a new stream needs an id above the mark) -/
theorem C09_marks_never_decrease (c : Conn) (op : Op) :
    c.highestOut ≤ (step c op).1.highestOut ∧ c.highestIn ≤ (step c op).1.highestIn :=
  prims_GE.step_keeps (fun _ _ h => h) (fun _ _ h => h) c op ⟨Int.le_refl _, Int.le_refl _⟩

/-- …along any sequence of operations -/
theorem C09_marks_monotone (c : Conn) (ops : List Op) :
    c.highestOut ≤ (run c ops).1.highestOut ∧ c.highestIn ≤ (run c ops).1.highestIn :=
  every_run (prims_GE.step_keeps (fun _ _ h => h) fun _ _ h => h) c ops ⟨Int.le_refl _, Int.le_refl _⟩

end H2.C09
