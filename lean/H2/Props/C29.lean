/-
  C29 — API misuse is reported only through documented exceptions and emits nothing.

  Proved for every state `c` with `16384 ≤ c.maxOutFrame` (part of the invariant `WF`, which `receive_data`
  preserves: C17) and every argument value, for the public calls
      send_data, end_stream, increment_flow_control_window, ping, reset_stream, close_connection,
      update_settings, advertise_alternative_service, prioritize, acknowledge_received_data,
      data_to_send, clear_outbound_data_buffer, local/remote_flow_control_window, get_next_available_stream_id,
      open_outbound_streams, open_inbound_streams:
  the call returns, or it raises an h2 exception or ValueError, and then the output buffer and the history of
  sent frames are unchanged (`C29_step_partial`).  In particular `_prepare_for_sending`'s AssertionError, the
  StructError of an unserialisable frame and the KeyError of a direct `self.streams[...]` index are unreachable
  in these calls.  The lookup clause is `C29_lookup_*`.

  `send_headers` (with header tuples that are two byte strings or two text strings), `push_stream`,
  `initiate_connection` and `initiate_upgrade_connection` (HTTP2-Settings value base64) have theorems of their own
  (`C29_send_headers`, `C29_push_stream`, `C29_initiate_connection`, `C29_initiate_upgrade`), under the invariant
  `Inv2` = the receive-path invariant + the stream table in order.  `Inv2` holds in every state reachable from a fresh
  connection by public calls and `receive_data` (`Reachable`, `C29_reachable_invariant`), so `C29_every_call` states the
  property for every call in every reachable state (`C29_every_history`: the same for the calls above, `send_headers`
  and `push_stream`, with the HPACK context untouched when these two raise, and C17 for `receive_data`).  `Reachable`
  never feeds the HPACK encoder's replay list: in a reachable state every `encode` returns the empty block (the
  decoder's results are arbitrary).
-/
import H2.Proofs.ApiWF
import H2.Proofs.Initiate
import H2.Props.C17

namespace H2.C29
open H2 H2.Gen H2.Conn

/-- the observable result of a call is a return value, an h2 exception, or ValueError -/
def ResAllowed : Res → Prop
  | .ok _ => True
  | .h2 _ _ _ => True
  | .py k => k = .ValueError

/-- the public calls that `covered_step` and `C29_step_partial` are about: those that open no stream -/
def covered : Op → Bool
  | .sendData .. | .endStream .. | .incrementWindow .. | .ping .. | .resetStream .. | .closeConnection ..
  | .updateSettings .. | .altsvc .. | .prioritize .. | .ackData .. | .dataToSend .. | .clearOut | .query .. => true
  | .initiateConnection | .initiateUpgrade .. | .sendHeaders .. | .pushStream .. | .recv .. => false

/-- what C29 says about one step -/
def StepOk (c : Conn) (r : Conn × Obs) : Prop :=
  ResAllowed r.2.res ∧ (r.2.res.isOk = false → r.1.out = c.out ∧ r.1.sent = c.sent)

theorem stepOk_of_refused {α : Type} (f : α → Val) (c c' : Conn) (e : Exc) (hal : Allowed e) (hos : OS c' = OS c) :
    StepOk c (c', { res := resOf f (.error e) }) := by
  have hos' : c'.out = c.out ∧ c'.sent = c.sent := ⟨congrArg Prod.fst hos, congrArg Prod.snd hos⟩
  cases e with
  | h2 cls code sid' evs => exact ⟨trivial, fun _ => hos'⟩
  | py kx => exact ⟨hal, fun _ => hos'⟩

theorem obs_of_api {α : Type} (f : α → Val) (m : CM α) (c : Conn) (h : ApiOk m c) :
    StepOk c (match m c with | (r, c') => (c', { res := resOf f r })) :=
  report_of_wp rfl h (fun _ _ _ => ⟨trivial, nofun⟩) fun e c' h' => stepOk_of_refused f c c' e h'.1 h'.2

/-- what `step` reports of a call that keeps C29's promise (under the premise `A`, if it needs one) and keeps `P` -/
theorem call_step {P : Conn → Prop} {A : Prop} {α : Type} (f : α → Val) (m : CM α) (c : Conn) (ha : A → ApiOk m c)
    (hk : Keeps P m) :
    (A → StepOk c (match m c with | (r, c') => (c', { res := resOf f r }))) ∧
    (P c → P (match m c with | (r, c') => (c', ({ res := resOf f r } : Obs))).1) :=
  ⟨fun a => obs_of_api f m c (ha a), fun h => keeps_of_run f m c (hk.run c h)⟩

/-- every covered call keeps C29's promise, and keeps what the blocks of `CallPrims` keep: the one place where `step`
    is taken apart for these calls -/
theorem covered_step {P : Conn → Prop} {F : (Stream → Prop) → Prop} (hP : CallPrims P F)
    (hw : ∀ c w, P c → P { c with outWin := w }) (c : Conn) (op : Op) (hcov : covered op = true) :
    (16384 ≤ c.maxOutFrame → StepOk c (step c op)) ∧ (P c → P (step c op).1) := by
  cases op with
  | initiateConnection => cases hcov
  | initiateUpgrade _ => cases hcov
  | sendHeaders _ _ _ _ _ _ => cases hcov
  | pushStream _ _ _ => cases hcov
  | recv _ => cases hcov
  | sendData sid d es pad => exact call_step _ _ c (fun _ => api_sendData sid d es pad c) (hP.sendData hw sid d es pad)
  | endStream sid => exact call_step _ _ c (api_endStream sid c) (hP.endStream sid)
  | incrementWindow i sid => exact call_step _ _ c (api_incrementWindow i sid c) (hP.incrementWindow i sid)
  | ping d => exact call_step _ _ c (api_ping d c) (hP.ping d)
  | resetStream sid code => exact call_step _ _ c (api_resetStream sid code c) (hP.resetStream sid code)
  | closeConnection code extra last =>
    exact call_step _ _ c (fun _ => api_closeConnection code extra last c) (hP.closeConnection code extra last)
  | updateSettings items => exact call_step _ _ c (fun _ => api_updateSettings items c) (hP.updateSettings items)
  | altsvc f o sid => exact call_step _ _ c (fun _ => api_altsvc f o sid c) (hP.altsvc f o sid)
  | prioritize sid w d e => exact call_step _ (prioritize sid w d e) c (api_prioritize sid w d e c) (hP.prioritize sid w d e)
  | ackData size sid => exact call_step _ _ c (api_ackData size sid c) (hP.ackData size sid)
  | dataToSend n => exact call_step _ (dataToSend n) c (fun _ => api_dataToSend n c) (hP.dataToSend n)
  | clearOut => exact call_step _ _ c (fun _ => api_clearOut c) hP.clearOut
  | query q =>
    cases q with
    | localWindow sid => exact call_step _ _ c (fun _ => api_localWindow sid c) (Keeps.localWindow sid)
    | remoteWindow sid => exact call_step _ _ c (fun _ => api_remoteWindow sid c) (Keeps.remoteWindow sid)
    | nextStreamId => exact call_step _ getNextAvailableStreamId c (fun _ => api_nextStreamId c) Keeps.nextStreamId
    | openOut => exact call_step _ _ c (fun _ => api_openOut c) (Keeps.openOut_of hP.openStreams)
    | openIn => exact call_step _ _ c (fun _ => api_openIn c) (Keeps.openIn_of hP.openStreams)
    | inboundWindow =>
      exact call_step Val.int (do let c ← getS; pure c.inWM.current_window_size) c (fun _ => trivial)
        (.bind_getS fun _ _ => .pure _)

/-- **C29 for the covered calls**: any state whose peer frame-size limit is legal, any arguments. -/
theorem C29_step_partial (c : Conn) (op : Op) (hcov : covered op = true) (hm : 16384 ≤ c.maxOutFrame) :
    StepOk c (step c op) :=
  (covered_step (P := fun _ => True) (F := fun _ => False) {} (fun _ _ h => h) c op hcov).1 hm

/-- **every covered call preserves the invariant** (whether it returns or raises) -/
theorem C29_covered_call_keeps_invariant (c : Conn) (op : Op) (hcov : covered op = true) (h : C17.Inv c) :
    C17.Inv (step c op).1 :=
  have k := (covered_step (calls_KW c.fb) (fun _ _ h => h.of_eq) c op hcov).2 ⟨h.1, rfl⟩
  ⟨k.1, k.2 ▸ h.2⟩

theorem C29_covered_call_keeps_streams (c : Conn) (op : Op) (hcov : covered op = true) (h : SO c) : SO (step c op).1 :=
  (covered_step calls_SO (fun _ _ h => h) c op hcov).2 h

/-- the hypothesis of `C29_step_partial` holds after every `receive_data` call that starts in a well-formed state (so
    it is not an assumption about the peer); that it holds initially is the `example` at the end of the file -/
theorem C29_premise_after_recv (c : Conn) (data : Bytes) (h : WF c) (hb : HbOk c.fb.headersBuffer) :
    16384 ≤ (receiveData data c).2.maxOutFrame := by
  have := receiveData_ok data c h hb
  cases hr : receiveData data c with
  | mk r c' =>
    rw [hr] at this
    cases r with
    | ok a => exact this.1.1.mof
    | error e => exact this.2.1.1.mof

/-! ### `send_headers` -/

/-- the invariant of the whole connection: the receive-path invariant plus the stream table in order -/
def Inv2 (c : Conn) : Prop := C17.Inv c ∧ SO c

theorem decOk_afterEncode (hp : Hp) (hs : List Header) (h : DecOk hp) : DecOk (hp.afterEncode hs) := by
  unfold Hp.afterEncode Hp.encode
  cases hp.encOracle <;> exact h

/-- what `Kept` keeps of the invariant; the HPACK context is the caller's business -/
theorem Inv2.of_kept {c c' : Conn} (h : Inv2 c) (k : Kept c c') (hp : DecOk c'.hp) : Inv2 c' :=
  ⟨⟨⟨⟨k.ls ▸ h.1.1.1.ls, k.rs ▸ h.1.1.1.rs, k.mof ▸ h.1.1.1.mof, hp, k.ls ▸ h.1.1.1.ls32⟩, k.ni⟩, k.fb ▸ h.1.2⟩, k.so⟩

/-- **`send_headers`** with well-typed header tuples, in any state satisfying the invariant and for all other
    arguments: it returns having fed the HPACK encoder exactly once, or it raises an h2 exception / ValueError and then
    the output buffer, the history of sent frames and the compression context are what they were; either way the
    invariant holds afterwards -/
theorem C29_send_headers (c : Conn) (sid : Int) (headers : List Header) (es : Bool) (pw pd : Option Int) (pe : Option Bool)
    (h : Inv2 c) (hwt : WellTyped headers) :
    StepOk c (step c (.sendHeaders sid headers es pw pd pe)) ∧
    Inv2 (step c (.sendHeaders sid headers es pw pd pe)).1 ∧
    ((step c (.sendHeaders sid headers es pw pd pe)).2.res.isOk = true →
        (step c (.sendHeaders sid headers es pw pd pe)).1.hp = c.hp.afterEncode (outList c.cfg headers)) ∧
    ((step c (.sendHeaders sid headers es pw pd pe)).2.res.isOk = false →
        (step c (.sendHeaders sid headers es pw pd pe)).1.hp = c.hp) := by
  simp only [step]
  generalize hr : runU _ c = r
  apply report_of_wpU hr (sendHeaders_spec sid headers es pw pd pe c h.1.1 h.2 hwt)
  · rintro c' ⟨hhp, k⟩
    exact ⟨⟨trivial, nofun⟩, h.of_kept k (by rw [hhp]; exact decOk_afterEncode _ _ h.1.1.1.dec), fun _ => hhp, nofun⟩
  · rintro e c' ⟨hal, hos, hhp, k⟩
    exact ⟨stepOk_of_refused _ c c' e hal hos, h.of_kept k (by rw [hhp]; exact h.1.1.1.dec),
      (fun hf => by cases e <;> cases hf), fun _ => hhp⟩

/-- **`push_stream`**, in any state satisfying the invariant and for all arguments: it returns having fed the HPACK
    encoder exactly once and having appended to the history exactly the PUSH_PROMISE + CONTINUATION frames that carry
    that block (each within the peer's frame size), or it raises an h2 exception and then the output buffer, the history
    of sent frames and the compression context are what they were; either way the invariant holds afterwards — in
    particular the stream object prepared for the promise does not stay behind IDLE -/
theorem C29_push_stream (c : Conn) (sid promised : Int) (headers : List Header) (h : Inv2 c) :
    StepOk c (step c (.pushStream sid promised headers)) ∧
    Inv2 (step c (.pushStream sid promised headers)).1 ∧
    ((step c (.pushStream sid promised headers)).2.res.isOk = true →
        (step c (.pushStream sid promised headers)).1.hp = c.hp.afterEncode (outList c.cfg headers) ∧
        ∃ frames, (step c (.pushStream sid promised headers)).1.sent = c.sent ++ frames ∧
          PushFrames sid promised c.maxOutFrame frames ∧
          (frames.filterMap Frame.fragment?).flatten = c.hp.encoded (outList c.cfg headers)) ∧
    ((step c (.pushStream sid promised headers)).2.res.isOk = false →
        (step c (.pushStream sid promised headers)).1.hp = c.hp) := by
  simp only [step]
  generalize hr : runU _ c = r
  apply report_of_wpU hr (pushStream_spec sid promised headers c h.1.1 h.2)
  · rintro c' ⟨hhp, k, hfr⟩
    exact ⟨⟨trivial, nofun⟩, h.of_kept k (by rw [hhp]; exact decOk_afterEncode _ _ h.1.1.1.dec),
      fun _ => ⟨hhp, hfr⟩, nofun⟩
  · rintro e c' ⟨hal, hos, hhp, k⟩
    exact ⟨stepOk_of_refused _ c c' e hal hos, h.of_kept k (by rw [hhp]; exact h.1.1.1.dec),
      (fun hf => by cases e <;> cases hf), fun _ => hhp⟩

/-- **`initiate_connection`**, in any state satisfying the invariant: it returns having written the SETTINGS frame of
    the current local settings (never a StructError), or the connection state machine refuses (ProtocolError) and
    nothing is written; the invariant holds afterwards -/
theorem C29_initiate_connection (c : Conn) (h : Inv2 c) :
    StepOk c (step c .initiateConnection) ∧ Inv2 (step c .initiateConnection).1 ∧
    ((step c .initiateConnection).2.res.isOk = true →
        (step c .initiateConnection).1.sent = c.sent ++ [Frame.settings false c.localSettings.items]) := by
  simp only [step]
  generalize hr : runU _ c = r
  apply report_of_wpU hr (initiateConnection_spec c h.1.1 h.2)
  · rintro c' ⟨hhp, k, hsent, _⟩
    exact ⟨⟨trivial, nofun⟩, h.of_kept k (by rw [hhp]; exact h.1.1.1.dec), fun _ => hsent⟩
  · rintro e c' ⟨hal, hos, hhp, k⟩
    exact ⟨stepOk_of_refused _ c c' e hal hos, h.of_kept k (by rw [hhp]; exact h.1.1.1.dec),
      fun hf => by cases e <;> cases hf⟩

/-- the HTTP2-Settings value handed to a server's `initiate_upgrade_connection` is base64 text (what Python's
    `urlsafe_b64decode` does with anything else is not modelled) -/
def HeaderIsBase64 (hdr : Option Bytes) : Prop := ∀ h, hdr = some h → (b64Decode h).isSome = true

/-- **`initiate_upgrade_connection`**, in any state satisfying the invariant, any base64 HTTP2-Settings value: it
    returns, or it raises an h2 exception (a value that is not a SETTINGS payload: ProtocolError; a refused setting:
    InvalidSettingsValueError; stream 1 already used: StreamIDTooLowError; …) and then nothing has been written; the
    invariant holds afterwards -/
theorem C29_initiate_upgrade (c : Conn) (hdr : Option Bytes) (h : Inv2 c) (hb : HeaderIsBase64 hdr) :
    StepOk c (step c (.initiateUpgrade hdr)) ∧ Inv2 (step c (.initiateUpgrade hdr)).1 := by
  generalize hr : step c (.initiateUpgrade hdr) = r
  apply report_of_wp hr (initiateUpgrade_spec hdr c h.1.1 h.2 hb)
  · rintro o c' ⟨hw, hs, hfb⟩
    exact ⟨⟨trivial, nofun⟩, ⟨hw, by rw [hfb]; exact h.1.2⟩, hs⟩
  · rintro e c' ⟨hal, hos, hw, hs, hfb⟩
    exact ⟨stepOk_of_refused _ c c' e hal hos, ⟨hw, by rw [hfb]; exact h.1.2⟩, hs⟩

/-! ### every history -/

/-- the arguments of a public call are well-typed: header tuples are two byte strings or two text strings, a server's
    HTTP2-Settings value is base64; `receive_data` is not a user call in C29's sense (a failing `receive_data` does
    write: the GOAWAY) -/
def UserCall : Op → Prop
  | .recv _ => False
  | .sendHeaders _ hs _ _ _ _ => WellTyped hs
  | .initiateUpgrade hdr => HeaderIsBase64 hdr
  | _ => True

/-- **every public call, any state satisfying the invariant**: the call returns, or raises an h2 exception / ValueError
    having written nothing; the invariant holds afterwards -/
theorem C29_call (c : Conn) (op : Op) (hop : UserCall op) (h : Inv2 c) :
    StepOk c (step c op) ∧ Inv2 (step c op).1 := by
  by_cases hcov : covered op = true
  · have hm := h.1.1.1.mof
    exact ⟨C29_step_partial c op hcov hm, C29_covered_call_keeps_invariant c op hcov h.1,
      C29_covered_call_keeps_streams c op hcov h.2⟩
  · cases op with
    | initiateConnection => have := C29_initiate_connection c h; exact ⟨this.1, this.2.1⟩
    | initiateUpgrade hdr => exact C29_initiate_upgrade c hdr h hop
    | sendHeaders sid hs es pw pd pe => have := C29_send_headers c sid hs es pw pd pe h hop; exact ⟨this.1, this.2.1⟩
    | pushStream sid p hs => have := C29_push_stream c sid p hs h; exact ⟨this.1, this.2.1⟩
    | recv _ => exact hop.elim
    | _ => exact absurd rfl hcov

/-- the states reachable from a fresh connection by public calls with well-typed arguments (`UserCall`) and
    `receive_data` calls (each with whatever well-typed results the HPACK decoder produces for it).  The encoder's replay
    list is never fed (`call` leaves it alone, `recv` sets it to `[]`), so in these states `encode` returns the empty
    block: a state in which a non-empty header block has been sent is not covered. -/
inductive Reachable (cfg : Config) : Conn → Prop
  | init : Reachable cfg (Conn.init cfg)
  | call (c : Conn) (op : Op) : Reachable cfg c → UserCall op → Reachable cfg (step c op).1
  | recv (c : Conn) (d : Bytes) (dec : List DecRes) : Reachable cfg c → C17.DecResOk dec →
      Reachable cfg (step (C17.feed c [] dec) (.recv d)).1

theorem C29_reachable_invariant (cfg : Config) (c : Conn) (h : Reachable cfg c) : Inv2 c := by
  induction h with
  | init => exact ⟨C17.C17_init cfg, so_init cfg⟩
  | call c op _ hop ih => exact (C29_call c op hop ih).2
  | recv c d dec _ hd ih =>
    refine ⟨(C17.C17_step _ d (C17.C17_feed c [] dec ih.1 hd)).2.2, ?_⟩
    rw [step_recv]
    exact receiveData_so d (C17.feed c [] dec) ih.2

/-- **C29 in every reachable state, for every public call**: whatever calls (with well-typed arguments) and whatever
    bytes came before, the next call returns, or raises an h2 exception / ValueError and then the output buffer and the
    history of sent frames are what they were -/
theorem C29_every_call (cfg : Config) (c : Conn) (h : Reachable cfg c) (op : Op) (hop : UserCall op) :
    StepOk c (step c op) :=
  (C29_call c op hop (C29_reachable_invariant cfg c h)).1

/-- **C29, C13 and C17 along every such history**: in every reachable state a covered call, `send_headers` with
    well-typed header tuples, and `push_stream` returns or raises an allowed exception having written nothing (and, for
    the two header-sending calls, having left the compression context alone); `receive_data` never ends in a
    Python-level exception -/
theorem C29_every_history (cfg : Config) (c : Conn) (h : Reachable cfg c) :
    (∀ op, covered op = true → StepOk c (step c op)) ∧
    (∀ sid hs es pw pd pe, WellTyped hs →
        StepOk c (step c (.sendHeaders sid hs es pw pd pe)) ∧
        ((step c (.sendHeaders sid hs es pw pd pe)).2.res.isOk = false → (step c (.sendHeaders sid hs es pw pd pe)).1.hp = c.hp)) ∧
    (∀ sid promised hs,
        StepOk c (step c (.pushStream sid promised hs)) ∧
        ((step c (.pushStream sid promised hs)).2.res.isOk = false → (step c (.pushStream sid promised hs)).1.hp = c.hp)) ∧
    (∀ d dec, C17.DecResOk dec → ∀ k, (step (C17.feed c [] dec) (.recv d)).2.res ≠ .py k) := by
  have hi := C29_reachable_invariant cfg c h
  refine ⟨fun op hcov => C29_step_partial c op hcov hi.1.1.1.mof, ?_, ?_,
         fun d dec hd => (C17.C17_step _ d (C17.C17_feed c [] dec hi.1 hd)).1⟩
  · intro sid hs es pw pd pe hwt
    obtain ⟨hok, _, _, hhp⟩ := C29_send_headers c sid hs es pw pd pe hi hwt
    exact ⟨hok, hhp⟩
  · intro sid promised hs
    obtain ⟨hok, _, _, hhp⟩ := C29_push_stream c sid promised hs hi
    exact ⟨hok, hhp⟩

/-- the constructors apply: a server calls `initiate_upgrade_connection` with a SETTINGS payload, then `push_stream`
    (which is refused: `call` does not ask that the call succeeds), then `ping` -/
example : Reachable { client := false }
    (step (step (step (Conn.init { client := false }) (.initiateUpgrade (some [65, 65, 77, 65, 65, 65, 66, 107]))).1
      (.pushStream 1 2 [])).1 (.ping [0, 0, 0, 0, 0, 0, 0, 0])).1 :=
  .call _ _ (.call _ _ (.call _ _ .init (fun h hh => by injection hh with hh; subst hh; decide)) trivial) trivial

/-! ### the lookup clause: closed-and-forgotten → StreamClosedError, never-used higher id → NoSuchStreamError -/

/-- `lookupExc` is NoSuchStreamError exactly for ids above the highest id used on that side, else StreamClosedError -/
theorem C29_lookup_kinds (c : Conn) (sid : Int) :
    (sid > (if streamIdIsOutbound c sid then c.highestOut else c.highestIn) →
        (lookupExc c sid).isInstance .NoSuchStreamError = true ∧ (lookupExc c sid).isInstance .StreamClosedError = false) ∧
    (¬ sid > (if streamIdIsOutbound c sid then c.highestOut else c.highestIn) →
        (lookupExc c sid).isInstance .StreamClosedError = true) := by
  unfold lookupExc
  constructor
  · intro h; rw [if_pos h]; exact ⟨rfl, rfl⟩
  · intro h; rw [if_neg h]; rfl

/-- calls that act on an existing stream, on an id that is not in the table, when the connection state admits the
    call and the arguments pass their range checks: exactly `lookupExc`, nothing written -/
theorem C29_lookup_endStream (c : Conn) (sid : Int) (h : hasStream c sid = false) (t : ConnectionState)
    (hc : connTable c.cstate .SEND_DATA = some t) : Refused (endStream sid) c sid := by
  unfold Refused endStream
  wps
  rw [wp_connInput_ok c _ t hc]
  wps
  exact refused_getStreamById { c with cstate := t } sid h c rfl rfl

theorem C29_lookup_resetStream (c : Conn) (sid code : Int) (h : hasStream c sid = false) (t : ConnectionState)
    (hcode : 0 ≤ code ∧ code ≤ 4294967295) (hc : connTable c.cstate .SEND_RST_STREAM = some t) :
    Refused (resetStream sid code) c sid := by
  unfold Refused resetStream
  wps
  rw [if_neg (by simp [hcode.1, hcode.2]), wp_connInput_ok c _ t hc]
  wps
  exact refused_getStreamById { c with cstate := t } sid h c rfl rfl

theorem C29_lookup_incrementWindow (c : Conn) (sid incr : Int) (h : hasStream c sid = false) (t : ConnectionState)
    (hi : 1 ≤ incr ∧ incr ≤ MAX_WINDOW_INCREMENT) (hc : connTable c.cstate .SEND_WINDOW_UPDATE = some t) :
    Refused (incrementFlowControlWindow incr (some sid)) c sid := by
  unfold Refused incrementFlowControlWindow
  wps
  rw [if_neg (by simp [hi.1, hi.2]), wp_connInput_ok c _ t hc]
  wps
  exact refused_getStreamById { c with cstate := t } sid h c rfl rfl

theorem C29_lookup_sendData (c : Conn) (sid : Int) (data : Bytes) (es : Bool) (pad : Option Int)
    (h : hasStream c sid = false) (hp : ∀ p, pad = some p → 0 ≤ p ∧ p ≤ 255) :
    Refused (sendData sid data es pad) c sid :=
  wp_sendData_rule sid data es pad c (fun _ => by
    unfold sendDataCore localFlowControlWindow
    wps
    exact refused_getStreamById c sid h c rfl rfl) fun p hpad hr => absurd (hp p hpad) (by omega)

theorem C29_lookup_localWindow (c : Conn) (sid : Int) (h : hasStream c sid = false) :
    Refused (localFlowControlWindow sid) c sid := by
  unfold Refused localFlowControlWindow
  wps
  exact refused_getStreamById c sid h c rfl rfl

/-- `acknowledge_received_data` has no lookup clause of its own (it ignores a forgotten stream): what is stated is
    `ApiOk`, for every stream id, with no hypothesis on the stream and no claim that the call returns -/
theorem C29_ackData_forgotten (c : Conn) (size sid : Int) (hm : 16384 ≤ c.maxOutFrame) :
    ApiOk (acknowledgeReceivedData size sid) c := api_ackData size sid c hm

/-- non-vacuity: the initial client state meets the premises, and stream 7 is a never-used higher id there -/
example : 16384 ≤ (Conn.init { client := true }).maxOutFrame ∧ hasStream (Conn.init { client := true }) 7 = false ∧
    (lookupExc (Conn.init { client := true }) 7).isInstance .NoSuchStreamError = true := by decide

end H2.C29
