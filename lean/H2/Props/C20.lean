/-
  C20 — frames racing a local stream reset never break the connection.

  Decided over the transition table regenerated from stream.py (for well-formed shapes: `Good sh` is a premise, see
  Proofs/Shapes), plus the `_receive_frame` wrapper of the hand model, plus (`C20_forgotten_*`) the path a frame takes
  when the reset stream has already been cleaned out of the stream table.
-/
import H2.Proofs.StreamLemmas
import H2.Proofs.WinEq
import H2.Proofs.PairFsm
-- the stream machine seen from both ends: a stream we reset swallows whatever the peer still sends
-- @also H2.PairFsm.reset_swallows

namespace H2.C20
open H2 H2.Gen H2.Conn

/-- the inputs a peer's in-flight frames on that stream turn into -/
def racing : List StreamInputs :=
  [.RECV_HEADERS, .RECV_INFORMATIONAL_HEADERS, .RECV_DATA, .RECV_END_STREAM, .RECV_WINDOW_UPDATE, .RECV_RST_STREAM,
   .RECV_PUSH_PROMISE, .RECV_ALTERNATIVE_SERVICE]

def locallyReset (sh : Shape) : Bool := sh.state == .CLOSED && sh.closedBy == some .SEND_RST_STREAM

/-- a local reset from any live state leaves exactly that shape -/
theorem C20_reset_shape : ∀ sh, (!Good sh || sh.state == .IDLE || sh.state == .CLOSED ||
    (match (stepShape sh .SEND_RST_STREAM) with
     | (.ok _, sh') => locallyReset sh'
     | _ => false)) = true :=
  forall_good_shape (fun s hg => by simp [hg]) (by decide +kernel)

/-- **C20 (stream machine)**: on a stream the application has reset, every frame the peer may still have in flight is
    either ignored or answered by the "stream closed" signal (which `_receive_frame` turns into RST_STREAM) — never
    a ProtocolError, never an event, and the stream stays as it is -/
theorem C20_racing_frames : ∀ sh i, (!Good sh || !locallyReset sh || !racing.contains i ||
    (match stepShape sh i with
     | (.ok evs, sh') => evs.isEmpty && sh' == sh
     | (.streamClosed withEvent, sh') => !withEvent && sh' == sh
     | (.proto, _) => false)) = true :=
  forall_good_shape_input (fun s i hg => by simp [hg]) (by decide +kernel)

/-- the wrapper (`_receive_frame`): a StreamClosedError for a stream that was closed by reset is answered with
    exactly one RST_STREAM(STREAM_CLOSED) on that stream and the exception's events (none, by the theorem above);
    nothing is raised and the connection goes on -/
theorem C20_wrapper (c1 : Conn) (sid : Int)
    (hr : closedByReset c1 sid = true) (hopen : c1.cstate = .CLIENT_OPEN ∨ c1.cstate = .SERVER_OPEN)
    (hmax : 4 ≤ c1.maxOutFrame) :
    ∃ b, (Frame.rstStream sid (streamClosedErrorCode : Int)).serialize? = some b ∧
    wp (frameErrorHandler (mkStreamClosed sid []))
      (fun evs c2 => evs = [] ∧ c2 = { c1 with out := c1.out ++ b, sent := c1.sent ++ [Frame.rstStream sid (streamClosedErrorCode : Int)] })
      (fun _ _ => False) c1 := by
  have hsub : ExcClass.isSub .StreamClosedError .StreamClosedError = true := by decide
  obtain ⟨b, hb, heq⟩ := wp_frameErrorHandler_reset c1 _ (some (Int.ofNat streamClosedErrorCode)) (some sid) [] true
    hsub hr (by decide) hmax
  refine ⟨b, hb, ?_⟩
  rw [mkStreamClosed, heq, connTable_open hopen .SEND_RST_STREAM]
  exact ⟨rfl, rfl⟩

/-- **WINDOW_UPDATE** for a stream already cleaned out of the table: ignored — no frame, no event, no exception -/
theorem C20_forgotten_window_update (c : Conn) (sid incr : Int) (hs : sid ≠ 0)
    (hno : hasStream c sid = false)
    (hold : sid ≤ (if streamIdIsOutbound c sid then c.highestOut else c.highestIn))
    (hopen : c.cstate = .CLIENT_OPEN ∨ c.cstate = .SERVER_OPEN) :
    wp (receiveWindowUpdateFrame sid incr) (fun fe c' => fe = ([], []) ∧ c' = c) (fun _ _ => False) c := by
  rw [wp_receiveWindowUpdateFrame_absent c sid incr _ (connTable_open hopen _) hs hno, lookupExc_old hold]
  exact ⟨rfl, rfl⟩

/-- **RST_STREAM** for a stream already cleaned out of the table: ignored likewise (StreamClosedError is a
    NoSuchStreamError, which the handler swallows) -/
theorem C20_forgotten_rst_stream (c : Conn) (sid code : Int)
    (hno : hasStream c sid = false)
    (hold : sid ≤ (if streamIdIsOutbound c sid then c.highestOut else c.highestIn))
    (hopen : c.cstate = .CLIENT_OPEN ∨ c.cstate = .SERVER_OPEN) :
    wp (receiveRstStreamFrame sid code) (fun fe c' => fe = ([], []) ∧ c' = c) (fun _ _ => False) c := by
  -- `hold` is not needed: the handler swallows NoSuchStreamError, so an id that was never used is ignored as well
  rw [wp_receiveRstStreamFrame_absent c sid code _ (connTable_open hopen _) hno]
  exact ⟨rfl, rfl⟩

/-- **DATA** for a stream already cleaned out of the table, fitting the connection window: the connection window is
    charged and — "DATA among them still replenishes the connection window" — the bytes are handed straight back to the
    window manager as processed (`process_bytes`, whose WINDOW_UPDATE, if any, is written in front); the frame is
    answered with RST_STREAM(STREAM_CLOSED) for the handler to write; no event, no exception, the stream table as it
    was -/
theorem C20_forgotten_data (c : Conn) (sid : Int) (payload : Bytes) (es : Bool) (fcl : Int)
    (hno : hasStream c sid = false)
    (hold : sid ≤ (if streamIdIsOutbound c sid then c.highestOut else c.highestIn))
    (hopen : c.cstate = .CLIENT_OPEN ∨ c.cstate = .SERVER_OPEN)
    (hfits : (c.inWM.window_consumed fcl).1 = .ok none) :
    wp (receiveDataFrame sid payload es fcl)
      (fun fe c' =>
        fe.2 = [] ∧
        (∃ wu, fe.1 = wu ++ [Frame.rstStream sid (streamClosedErrorCode : Int)] ∧
          ∀ f ∈ wu, ∃ n, f = Frame.windowUpdate 0 n) ∧
        c'.streams = c.streams ∧
        c'.inWM = ((c.inWM.window_consumed fcl).2.process_bytes fcl).2)
      (fun _ _ => False) c := by
  rw [wp_receiveDataFrame_eq c sid payload es fcl _ (connTable_open hopen _), lookup_none_of_hasStream hno]
  cases hcons : c.inWM.window_consumed fcl with
  | mk r w =>
    rw [hcons] at hfits
    cases hfits
    dsimp only
    rw [lookupExc_old hold, dataOnClosed,
      if_pos (show (mkStreamClosed sid).isInstance .StreamClosedError = true from rfl), wp_handleDataOnClosedStream]
    obtain ⟨v, w2, hp, _⟩ := WindowManager.process_bytes_spec w fcl
    rw [hp]
    refine ⟨rfl, ⟨_, rfl, fun f hf => ?_⟩, rfl, rfl⟩
    -- the WINDOW_UPDATE in front, if `process_bytes` asked for one
    cases v with
    | none => cases hf
    | some n =>
      dsimp only at hf
      split at hf
      · exact ⟨n, List.mem_singleton.mp hf⟩
      · cases hf

/-- an id at or below the high-water mark of its side is not one that would open a stream -/
theorem not_new_of_old (c : Conn) (sid : Int)
    (hold : sid ≤ (if streamIdIsOutbound c sid then c.highestOut else c.highestIn)) (b : Bool) :
    (b && !hasStream c sid && !streamIdIsOutbound c sid && decide (sid > c.highestIn)) = false := by
  cases ho : streamIdIsOutbound c sid with
  | true => simp
  | false =>
    rw [ho, if_neg Bool.false_ne_true] at hold
    simp [Int.not_lt.mpr hold]

theorem wp_decodeHeaders_ok {Q : List Header → Conn → Prop} {E : Exc → Conn → Prop} (block : Bytes) (c : Conn)
    (hs : List Header) (hp' : Hp) (hdec : Hp.decode block c.hp = (.ok (.ok hs), hp')) :
    wp (decodeHeaders block) Q E c = Q hs { c with hp := hp' } := by
  unfold decodeHeaders
  rw [wp_bind, wp_zoom, wp_eq_ok _ _ _ _ hdec]
  rfl

/-- `_receive_headers_frame` after the concurrency check, for an id that is not in the stream table and at or below
    the high-water mark of its side: the block is decoded, then `_begin_new_stream` raises StreamIDTooLowError -/
theorem headersRest_too_low (c : Conn) (sid : Int) (block : Bytes) (es : Bool) (prio : Option Prio)
    (hno : hasStream c sid = false)
    (hold : sid ≤ (if streamIdIsOutbound c sid then c.highestOut else c.highestIn))
    (hopen : c.cstate = .CLIENT_OPEN ∨ c.cstate = .SERVER_OPEN)
    (hs : List Header) (hp' : Hp) (hdec : Hp.decode block c.hp = (.ok (.ok hs), hp')) :
    wp (receiveHeadersRest sid block es prio) (fun _ _ => False)
      (fun e c' => e = .h2 .StreamIDTooLowError (ExcClass.StreamIDTooLowError.classCode.map Int.ofNat) (some sid) [] ∧
        c' = { c with hp := hp' }) c := by
  unfold receiveHeadersRest
  rw [wp_bind, wp_decodeHeaders_ok block c hs hp' hdec]
  -- what follows reads the table, the marks and the connection state, which the decoder has not touched
  generalize hc1 : ({ c with hp := hp' } : Conn) = c1
  have hno' : hasStream c1 sid = false := hc1 ▸ hno
  have hold' : sid ≤ (if streamIdIsOutbound c1 sid then c1.highestOut else c1.highestIn) := hc1 ▸ hold
  have hopen' : c1.cstate = .CLIENT_OPEN ∨ c1.cstate = .SERVER_OPEN := hc1 ▸ hopen
  wps
  rw [wp_connInput_stay _ _ (connTable_open hopen' _)]
  wps
  rw [not_new_of_old c1 sid hold', if_neg Bool.false_ne_true]
  unfold getOrCreateStream beginNewStream
  wps
  rw [hno', if_neg Bool.false_ne_true, if_pos hold']
  exact ⟨trivial, trivial⟩

/-- **after the closed stream's state is cleaned up**: a HEADERS frame (a response, trailers, a request's trailers)
    for a stream this endpoint has reset and already removed from its table — the id is at or below the high-water
    mark of its side, the closed-stream memory says SEND_RST_STREAM — is answered with exactly one
    RST_STREAM(STREAM_CLOSED); no event, no exception, however many streams are open and whatever
    MAX_CONCURRENT_STREAMS is (the limit is checked only for an id that would open a stream, `not_new_of_old`).
    The header block is still decoded (the compression context stays in step); the premise is that it decodes. -/
theorem C20_forgotten_headers (c : Conn) (sid : Int) (block : Bytes) (es : Bool) (pad : Option Int) (prio : Option Prio)
    (eh : Bool) (fcl : Nat)
    (hno : hasStream c sid = false)
    (hold : sid ≤ (if streamIdIsOutbound c sid then c.highestOut else c.highestIn))
    (hr : closedByReset c sid = true) (hopen : c.cstate = .CLIENT_OPEN ∨ c.cstate = .SERVER_OPEN)
    (hmax : 4 ≤ c.maxOutFrame)
    (hs : List Header) (hp' : Hp) (hdec : Hp.decode block c.hp = (.ok (.ok hs), hp')) :
    ∃ b, (Frame.rstStream sid (ErrorCodes.STREAM_CLOSED : Int)).serialize? = some b ∧
    wp (receiveFrame { frame := .headers sid block es eh pad prio, fcl := fcl })
      (fun evs c2 => evs = [] ∧
        c2 = { c with hp := hp', out := c.out ++ b, sent := c.sent ++ [Frame.rstStream sid (ErrorCodes.STREAM_CLOSED : Int)] })
      (fun _ _ => False) c := by
  obtain ⟨b, hb, hw⟩ := wp_frameErrorHandler_reset { c with hp := hp' } .StreamIDTooLowError
    (ExcClass.StreamIDTooLowError.classCode.map Int.ofNat) (some sid) [] false (by decide) hr (by decide) hmax
  refine ⟨b, hb, ?_⟩
  unfold receiveFrame
  wps
  simp only [dispatch, receiveHeadersFrame]
  wps
  have hnew := not_new_of_old c sid hold true
  rw [Bool.true_and] at hnew
  rw [hnew, if_neg Bool.false_ne_true]
  apply wp_mono (headersRest_too_low c sid block es prio hno hold hopen hs hp' hdec)
  · intro _ _ hf; exact hf.elim
  · rintro e c' ⟨rfl, rfl⟩
    -- a StreamIDTooLowError is not a StreamClosedError: `_receive_frame` catches both, and answers this one with
    -- STREAM_CLOSED and no events
    refine (if_pos rfl).mpr ?_
    rw [hw, connTable_open hopen .SEND_RST_STREAM]
    exact ⟨rfl, rfl⟩

/-- **what "replenishes" means for the ledger**: charging a frame to a window manager and handing the same bytes back as
    processed leaves `current_window_size + bytes_processed` — the window the peer sees plus what the next
    WINDOW_UPDATE will return — exactly what it was, and the maximum untouched; whether a WINDOW_UPDATE comes out now
    or later.  Hypothesis: no more was acknowledged so far than was received (`current + processed ≤ max`, the
    ledger invariant of C05; with it the cap `min processed (max - current)` never bites). -/
theorem C20_credit_conserved (w : WindowManager) (n : Int)
    (hinv : w.current_window_size + w.bytes_processed ≤ w.max_window_size) :
    (((w.window_consumed n).2.process_bytes n).2.current_window_size
      + ((w.window_consumed n).2.process_bytes n).2.bytes_processed
        = w.current_window_size + w.bytes_processed) ∧
    ((w.window_consumed n).2.process_bytes n).2.max_window_size = w.max_window_size := by
  obtain ⟨v, w', he, hmax, hcur, hbp⟩ := WindowManager.process_bytes_spec (w.window_consumed n).2 n
  rw [he]
  simp only [WindowManager.window_consumed_eq] at hmax hcur hbp
  refine ⟨?_, hmax⟩
  show w'.current_window_size + w'.bytes_processed = _
  omega

/-- **DATA for a forgotten stream costs the peer nothing**: under the hypotheses of `C20_forgotten_data` and the ledger
    invariant, after the frame the connection window plus the bytes waiting to be returned is what it was before -/
theorem C20_forgotten_data_credit (c : Conn) (sid : Int) (payload : Bytes) (es : Bool) (fcl : Int)
    (hno : hasStream c sid = false)
    (hold : sid ≤ (if streamIdIsOutbound c sid then c.highestOut else c.highestIn))
    (hopen : c.cstate = .CLIENT_OPEN ∨ c.cstate = .SERVER_OPEN)
    (hfits : (c.inWM.window_consumed fcl).1 = .ok none)
    (hinv : c.inWM.current_window_size + c.inWM.bytes_processed ≤ c.inWM.max_window_size) :
    wp (receiveDataFrame sid payload es fcl)
      (fun _ c' => c'.inWM.current_window_size + c'.inWM.bytes_processed
          = c.inWM.current_window_size + c.inWM.bytes_processed ∧ c'.inWM.max_window_size = c.inWM.max_window_size)
      (fun _ _ => False) c := by
  apply wp_mono (C20_forgotten_data c sid payload es fcl hno hold hopen hfits)
  · intro _ c' h
    rw [h.2.2.2]
    exact C20_credit_conserved c.inWM fcl hinv
  · intro _ _ hf; exact hf

/-- non-vacuity of the ledger hypothesis, and a case where the WINDOW_UPDATE comes out at once: a fresh 65535-byte
    window that has 40000 bytes waiting, charged and credited 100 more -/
example : (({ max_window_size := 65535, current_window_size := 20000, bytes_processed := 40000 } : WindowManager).window_consumed 100).1 = .ok none ∧
    ((({ max_window_size := 65535, current_window_size := 20000, bytes_processed := 40000 } : WindowManager).window_consumed 100).2.process_bytes 100)
      = (.ok (some 40100), { max_window_size := 65535, current_window_size := 60000, bytes_processed := 0 }) := by
  constructor <;> rfl

/-- non-vacuity: an open request stream that is reset has the shape the theorem talks about, and DATA racing the
    reset gets the quiet "closed" signal -/
example : stepShape { state := .OPEN, client := some true, headersSent := true } .SEND_RST_STREAM =
      (.ok [], { state := .CLOSED, client := some true, headersSent := true, closedBy := some .SEND_RST_STREAM }) ∧
    (stepShape { state := .CLOSED, client := some true, headersSent := true, closedBy := some .SEND_RST_STREAM } .RECV_DATA).1
      = .streamClosed false := by decide

end H2.C20
