/-
  C25 — the h2c upgrade hands over settings and stream 1 consistently.

  The HTTP2-Settings value is base64 of a SETTINGS payload: `b64Decode ∘ b64Encode = id` (`C25_b64_roundtrip`) and the
  payload round trip for the identifiers hyperframe can write (`C25_settings_roundtrip`); after the upgrade both sides
  hold stream 1 in the states RFC 7540 §3.2 names, with the stream-id marks to match (`C25_stream1_states`,
  `C25_stream1_use`, `C25_next_ids`).
-/
import H2.Proofs.StepShape
import H2.Model.Step
import H2.Proofs.Bytes

namespace H2.C25
open H2 H2.Gen H2.Conn

/-! ### HTTP2-Settings: urlsafe base64 round trip -/

/-- the alphabet is decoded as it was encoded, and none of its characters is the padding `=` -/
theorem b64Val_b64Char : ∀ n : Fin 64, b64Val (b64Char n.val) = some n.val ∧ b64Char n.val ≠ 61 := by decide

theorem b64Val_char (n : Nat) (h : n < 64) : b64Val (b64Char n) = some n := (b64Val_b64Char ⟨n, h⟩).1

theorem b64Char_ne61 (n : Nat) (h : n < 64) : b64Char n ≠ 61 := (b64Val_b64Char ⟨n, h⟩).2

theorem u8_ofNat_toNat (a : UInt8) : UInt8.ofNat a.toNat = a := by
  cases a; simp [UInt8.ofNat, UInt8.toNat]

/-- the sextets of a 24-bit group put together again: the first two, three, four of them -/
theorem sextets (n : Nat) :
    n / 262144 * 64 + n / 4096 % 64 = n / 4096 ∧ n / 4096 * 64 + n / 64 % 64 = n / 64 ∧ n / 64 * 64 + n % 64 = n := by
  omega

/-- the bytes of a group, read back from its value -/
theorem group_bytes (a b c : Nat) (hb : b < 256) (hc : c < 256) :
    (a * 65536 + b * 256 + c) / 65536 = a ∧ (a * 65536 + b * 256 + c) / 256 % 256 = b ∧
    (a * 65536 + b * 256 + c) % 256 = c := by
  omega

/-- **urlsafe base64**: decoding what `urlsafe_b64encode` produced gives the bytes back, for every byte string -/
theorem C25_b64_roundtrip : ∀ bs : Bytes, b64Decode (b64Encode bs) = some bs
  | [] => rfl
  | [a] => by
    have ha := a.toNat_lt
    simp only [b64Encode]
    rw [b64Decode.eq_2, b64Val_char _ (by omega), b64Val_char _ (by omega)]
    simp only [bind, Option.bind, pure, (sextets _).1]
    have : a.toNat * 65536 / 4096 / 16 = a.toNat := by omega
    rw [this, u8_ofNat_toNat]
  | [a, b] => by
    have ha := a.toNat_lt
    have hb := b.toNat_lt
    simp only [b64Encode]
    rw [b64Decode.eq_3 _ _ _ (b64Char_ne61 _ (by omega)), b64Val_char _ (by omega), b64Val_char _ (by omega),
      b64Val_char _ (by omega)]
    simp only [bind, Option.bind, pure, (sextets _).1, (sextets _).2.1]
    have h1 : (a.toNat * 65536 + b.toNat * 256) / 64 / 1024 = a.toNat := by omega
    have h2 : (a.toNat * 65536 + b.toNat * 256) / 64 / 4 % 256 = b.toNat := by omega
    rw [h1, h2, u8_ofNat_toNat, u8_ofNat_toNat]
  | a :: b :: c :: rest => by
    have ha := a.toNat_lt
    have hb := b.toNat_lt
    have hc := c.toNat_lt
    obtain ⟨g1, g2, g3⟩ := group_bytes a.toNat b.toNat c.toNat hb hc
    simp only [b64Encode]
    rw [b64Decode.eq_4 _ _ _ _ _ (fun _ h _ => b64Char_ne61 _ (by omega) h) (fun h _ => b64Char_ne61 _ (by omega) h),
      b64Val_char _ (by omega), b64Val_char _ (by omega), b64Val_char _ (by omega), b64Val_char _ (by omega),
      C25_b64_roundtrip rest]
    simp only [bind, Option.bind, pure, (sextets _).1, (sextets _).2.1, (sextets _).2.2]
    rw [g1, g2, g3, u8_ofNat_toNat, u8_ofNat_toNat, u8_ofNat_toNat]

/-! ### HTTP2-Settings: SETTINGS payload round trip -/

/-- one entry of a SETTINGS payload -/
def entry (kv : Int × Int) : Bytes := be16 (mask8 kv.1) ++ be32 kv.2.toNat

def payload (items : List (Int × Int)) : Bytes := (items.map entry).flatten

def ItemOk (kv : Int × Int) : Prop := 0 ≤ kv.1 ∧ kv.1 < 256 ∧ 0 ≤ kv.2 ∧ kv.2 < 4294967296

theorem entry_length (kv : Int × Int) : (entry kv).length = 6 := rfl

theorem payload_cons (kv : Int × Int) (rest : List (Int × Int)) : payload (kv :: rest) = entry kv ++ payload rest := rfl

theorem payload_length (items : List (Int × Int)) : (payload items).length = 6 * items.length := by
  induction items with
  | nil => rfl
  | cons kv rest ih => rw [payload_cons, List.length_append, entry_length, ih, List.length_cons]; omega

def settingsStep (acc : Bytes) (kv : Int × Int) : Option Bytes := do
  let v ← u32? kv.2
  pure (acc ++ be16 (mask8 kv.1) ++ v)

theorem settingsStep_ok (acc : Bytes) (kv : Int × Int) (h : ItemOk kv) :
    settingsStep acc kv = some (acc ++ entry kv) := by
  unfold settingsStep
  rw [u32?_eq ⟨h.2.2.1, h.2.2.2⟩]
  simp [entry, List.append_assoc]

theorem foldl_settingsStep (items : List (Int × Int)) (h : ∀ kv ∈ items, ItemOk kv) (acc : Bytes) :
    items.foldlM settingsStep acc = some (acc ++ payload items) := by
  induction items generalizing acc with
  | nil => simp [payload]
  | cons kv rest ih =>
    rw [List.foldlM_cons, settingsStep_ok acc kv (h kv (List.mem_cons_self ..))]
    simp only [Option.bind_eq_bind, Option.bind_some]
    rw [ih (fun x hx => h x (List.mem_cons_of_mem _ hx))]
    simp [payload, List.append_assoc]

theorem body_eq_payload (a : Bool) (items : List (Int × Int)) (h : ∀ kv ∈ items, ItemOk kv) :
    (Frame.settings a items).body? = some (payload items) := by
  have : (Frame.settings a items).body? = items.foldlM settingsStep [] := rfl
  rw [this, foldl_settingsStep items h []]
  simp

theorem go_payload (items : List (Int × Int)) (acc : List (Int × Int)) (fuel : Nat)
    (h : ∀ kv ∈ items, ItemOk kv) (hf : items.length ≤ fuel) (hd : ((acc ++ items).map (·.1)).Nodup) :
    parseBody.go fuel (payload items) acc = acc ++ items := by
  induction items generalizing acc fuel with
  | nil =>
    cases fuel <;> simp [parseBody.go, payload]
  | cons kv rest ih =>
    cases fuel with
    | zero => simp at hf
    | succ n =>
      obtain ⟨hk0, hk1, hv0, hv1⟩ := h kv (List.mem_cons_self ..)
      obtain ⟨k, v⟩ := kv
      have hlen : ¬ ((entry (k, v) ++ payload rest).length < 6) := by simp [entry_length]
      have hk : (rd16 ((entry (k, v) ++ payload rest).take 2) : Int) = k := by
        rw [show (entry (k, v) ++ payload rest).take 2 = be16 (mask8 k) from rfl, rd16_be16 _ (by unfold mask8; omega)]
        unfold mask8; omega
      have hv : (rd32 (((entry (k, v) ++ payload rest).drop 2).take 4) : Int) = v := by
        rw [show ((entry (k, v) ++ payload rest).drop 2).take 4 = be32 v.toNat from rfl, rd32_be32 _ (by omega)]
        omega
      have hdrop : (entry (k, v) ++ payload rest).drop 6 = payload rest := rfl
      -- the identifier is new to the accumulator, so the entry is appended
      have hnot : (acc.any fun kv => kv.1 == k) = false :=
        List.any_eq_false.mpr fun x hx hxk =>
          (List.nodup_append.mp (List.map_append ▸ hd)).2.2 x.1 (List.mem_map_of_mem hx) k List.mem_cons_self
            (by simpa using hxk)
      rw [payload_cons]
      unfold parseBody.go
      simp only [hlen, if_false, hk, hv, hdrop, hnot, Bool.false_eq_true]
      rw [ih (acc ++ [(k, v)]) n (fun x hx => h x (List.mem_cons_of_mem _ hx)) (by simp at hf; omega)
        (by rw [List.append_assoc]; exact hd), List.append_assoc]
      rfl

/-- **SETTINGS payload**: what `SettingsFrame.serialize_body` writes for distinct identifiers below 256 with 32-bit
    values, `parse_body` reads back unchanged and in order (identifiers ≥ 256 are truncated by hyperframe: D21) -/
theorem C25_settings_roundtrip (items : List (Int × Int)) (h : ∀ kv ∈ items, ItemOk kv)
    (hd : (items.map (·.1)).Nodup) :
    ∃ body, (Frame.settings false items).body? = some body ∧
      parseBody { length := body.length, type := 4, flags := 0, sid := 0 } body = .ok { frame := .settings false items } := by
  refine ⟨payload items, body_eq_payload false items h, ?_⟩
  have hlen := payload_length items
  unfold parseBody
  simp only [hasBit]
  have h6 : (payload items).length % 6 = 0 := by rw [hlen]; omega
  simp [h6, go_payload items [] (payload items).length h (by rw [hlen]; omega) hd]

/-! ### stream 1 after the upgrade -/

def clientStream1 : Shape := (stepShape {} .UPGRADE_CLIENT).2
def serverStream1 : Shape := (stepShape {} .UPGRADE_SERVER).2

/-- stream 1 starts half-closed on both sides: half-closed(local) at the client, which has "sent" the request,
    half-closed(remote) at the server, which has "received" it -/
theorem C25_stream1_states :
    (stepShape {} .UPGRADE_CLIENT).1 = .ok [.RequestSent] ∧ clientStream1.state = .HALF_CLOSED_LOCAL ∧
    clientStream1.client = some true ∧ clientStream1.headersSent = true ∧
    (stepShape {} .UPGRADE_SERVER).1 = .ok [.RequestReceived] ∧ serverStream1.state = .HALF_CLOSED_REMOTE ∧
    serverStream1.client = some false ∧ serverStream1.headersReceived = true := by decide

/-- the server can answer it (headers, data, end of stream), the client receives that response; neither side can
    send a request body: the client's SEND_DATA / SEND_END_STREAM and request DATA arriving at the server are refused -/
theorem C25_stream1_use :
    okStep serverStream1 .SEND_HEADERS = true ∧ okStep (stepShape serverStream1 .SEND_HEADERS).2 .SEND_DATA = true ∧
    okStep (stepShape serverStream1 .SEND_HEADERS).2 .SEND_END_STREAM = true ∧
    okStep clientStream1 .RECV_HEADERS = true ∧ okStep (stepShape clientStream1 .RECV_HEADERS).2 .RECV_DATA = true ∧
    okStep clientStream1 .SEND_DATA = false ∧ okStep clientStream1 .SEND_END_STREAM = false ∧
    okStep clientStream1 .SEND_HEADERS = false ∧ okStep serverStream1 .RECV_DATA = false ∧
    okStep serverStream1 .RECV_HEADERS = false := by decide

/-- the upgrade registers stream 1 with the right watermark, so that both sides go on with ids 3 and 2 -/
theorem C25_next_ids :
    let c := (step (Conn.init { client := true }) (.initiateUpgrade none)).1
    let s := (step (Conn.init { client := false }) (.initiateUpgrade none)).1
    (c.streams.map fun e => (e.1, e.2.sm.sh.state)) = [(1, .HALF_CLOSED_LOCAL)] ∧ c.highestOut = 1 ∧ c.highestIn = 0 ∧
    (s.streams.map fun e => (e.1, e.2.sm.sh.state)) = [(1, .HALF_CLOSED_REMOTE)] ∧ s.highestIn = 1 ∧ s.highestOut = 0 ∧
    (getNextAvailableStreamId c).1.toOption = some 3 ∧ (getNextAvailableStreamId s).1.toOption = some 2 := by
  decide +kernel

/-- the value the client puts into HTTP2-Settings is the base64 of the SETTINGS payload of its local settings, so by
    the two round trips above the server's `initiate_upgrade_connection(value)` hands exactly those settings to
    `_receive_settings_frame` -/
theorem C25_header_is_local_settings (c : Conn) (items : List (Int × Int)) (hi : c.localSettings.items = items)
    (hok : ∀ kv ∈ items, ItemOk kv) (hd : (items.map (·.1)).Nodup) :
    ∃ body, (Frame.settings false items).body? = some body ∧
      b64Decode (b64Encode body) = some body ∧
      parseBody { length := body.length, type := 4, flags := 0, sid := 0 } body = .ok { frame := .settings false items } := by
  obtain ⟨body, h1, h2⟩ := C25_settings_roundtrip items hok hd
  exact ⟨body, h1, C25_b64_roundtrip body, h2⟩

end H2.C25
