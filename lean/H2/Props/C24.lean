/-
  C24 — alternative-service advertisements follow the RFC 7838 rules.
-/
import H2.Proofs.StreamLemmas
import H2.Proofs.Shapes

namespace H2.C24
open H2 H2.Gen H2.Conn

/-- an advertisement names either an origin or a stream, never both, never neither: ValueError, nothing changes -/
theorem C24_origin_xor_stream (field : Bytes) (origin : Option Bytes) (sid : Option Int) (c : Conn)
    (h : (origin.isSome && sid.isSome) = true ∨ (origin.isNone && sid.isNone) = true) :
    advertiseAlternativeService field origin sid c = (.error (.py .ValueError), c) := by
  unfold advertiseAlternativeService
  rcases h with h | h
  · simp only [h, if_true]; rfl
  · have h2 : (origin.isSome && sid.isSome) = false := by
      cases origin <;> cases sid <;> simp_all
    simp only [h2, Bool.false_eq_true, if_false, h, if_true]; rfl

/-- only servers advertise: a client's call raises ProtocolError and changes nothing -/
theorem C24_only_servers (field : Bytes) (origin : Option Bytes) (sid : Option Int) (c : Conn)
    (hcl : c.cfg.client = true) (hx : (origin.isSome && sid.isSome) = false) (hy : (origin.isNone && sid.isNone) = false) :
    advertiseAlternativeService field origin sid c = (.error pErr, c) := by
  unfold advertiseAlternativeService
  simp only [hx, hy, Bool.false_eq_true, if_false, bind, M.bind, getS, hcl, if_true]; rfl

/-- a stream advertisement is allowed exactly on a server's stream (a received request or one it promised itself) that
    is not closed and whose response headers were not sent yet (decided over the generated stream table, all
    reachable shapes; HALF_CLOSED_LOCAL without sent headers exists only through known finding D17b) -/
def altSvcSendable (sh : Shape) : Bool :=
  sh.client == some false && !sh.headersSent &&
  (sh.state == .OPEN || sh.state == .HALF_CLOSED_REMOTE || sh.state == .RESERVED_LOCAL || sh.state == .HALF_CLOSED_LOCAL)

theorem C24_stream_window : ∀ sh, (!Good sh || (okStep sh .SEND_ALTERNATIVE_SERVICE == altSvcSendable sh)) = true :=
  forall_good_shape (fun s hg => by simp [hg]) (by decide +kernel)

/-- and an accepted advertisement leaves the stream as it was -/
theorem C24_send_keeps_stream : ∀ sh, (!okStep sh .SEND_ALTERNATIVE_SERVICE ||
    ((stepShape sh .SEND_ALTERNATIVE_SERVICE).2 == sh)) = true := by
  intro sh
  -- a row of the ALTSVC column stays in its state, and its effect `send_alt_svc` refuses or hands the machine back
  have hrow : streamTable sh.state .SEND_ALTERNATIVE_SERVICE = none ∨
      streamTable sh.state .SEND_ALTERNATIVE_SERVICE = some (some .send_alt_svc, sh.state) := by
    cases sh.state
    case IDLE | RESERVED_REMOTE | CLOSED => exact .inl rfl
    all_goals exact .inr rfl
  unfold okStep stepShape
  rcases hrow with h | h <;> rw [h]
  · rfl
  · dsimp only [runEffect]
    by_cases hs : sh.headersSent = true
    · rw [if_pos hs]; rfl
    · rw [if_neg hs]; exact beq_self_eq_true sh

/-- the frame that goes out for a stream: ALTSVC on that stream, with an empty origin (the frame on stream 0 that
    carries an origin is `advertiseAlternativeService`'s own and is not part of this statement) -/
theorem C24_stream_frame (field : Bytes) (st : Stream) (a : List Frame) (st' : Stream)
    (h : Stream.advertiseAltSvc field st = (.ok a, st')) : a = [Frame.altsvc st.sid [] field] := by
  refine (wp_result (Q := fun a _ => a = [Frame.altsvc st.sid [] field]) (E := fun _ _ => True) ?_).1 a st' h
  unfold Stream.advertiseAltSvc
  wps
  exact wp_processInput_rule _ _ (fun _ _ _ => rfl) (fun _ _ _ _ _ => trivial)

/-- what `recv_alt_svc` reports, on every reachable shape: an event exactly for a stream at a client (its own
    request, or in RESERVED_REMOTE one the server has promised) that is open, half-closed or reserved and on which no
    response headers have arrived yet; where the input is accepted the stream is left exactly as it was
    (`C24_recv_keeps_state`) -/
def altSvcReported (sh : Shape) : Bool := sh.client == some true && !sh.headersReceived
    && (sh.state == .OPEN || sh.state == .HALF_CLOSED_LOCAL || sh.state == .RESERVED_REMOTE || sh.state == .HALF_CLOSED_REMOTE)

theorem C24_recv_reports : ∀ sh, (!Good sh ||
    (match (stepShape sh .RECV_ALTERNATIVE_SERVICE).1 with
     | .ok [e] => e == .AlternativeServiceAvailable && altSvcReported sh
     | .ok [] => !altSvcReported sh
     | .ok _ => false
     | _ => true)) = true := forall_good_shape (fun s hg => by simp [hg]) (by decide +kernel)

theorem C24_recv_keeps_state : ∀ sh, (match stepShape sh .RECV_ALTERNATIVE_SERVICE with
     | (.ok _, sh') => sh' == sh
     | _ => true) = true := by
  intro sh
  -- every row of the ALTSVC column stays in its state, and `recv_alt_svc`, the one effect in the column, hands the
  -- machine back as it got it
  have hrow : streamTable sh.state .RECV_ALTERNATIVE_SERVICE = some (none, sh.state) ∨
      streamTable sh.state .RECV_ALTERNATIVE_SERVICE = some (some .recv_alt_svc, sh.state) := by
    cases sh.state
    case RESERVED_LOCAL | IDLE | CLOSED => exact .inl rfl
    all_goals exact .inr rfl
  have heff : ∀ s : Shape, ∃ evs, runEffect .recv_alt_svc s = (.ok evs, s) := by
    intro s
    dsimp only [runEffect]
    split
    · exact ⟨_, rfl⟩
    · split <;> exact ⟨_, rfl⟩
  unfold stepShape
  rcases hrow with h | h <;> rw [h]
  · exact beq_self_eq_true sh
  · obtain ⟨evs, he⟩ := heff { sh with state := sh.state }
    dsimp only
    rw [he]
    exact beq_self_eq_true sh

/-- ALTSVC on stream 0: a client reports the origin given; an empty origin, and any ALTSVC at a server, is silently
    ignored (no event, no frame, no error) -/
theorem C24_recv_stream0 (origin field : Bytes) (c : Conn) (t : ConnectionState)
    (ht : connTable c.cstate .RECV_ALTERNATIVE_SERVICE = some t) :
    receiveAltSvcFrame 0 origin field c =
      (.ok ([], if origin.isEmpty || !c.cfg.client then [] else [Event.AlternativeServiceAvailable (some origin) (some field)]),
       { c with cstate := t }) := by
  unfold receiveAltSvcFrame
  simp only [bind, M.bind, connInput, ht, bne_self_eq_false, Bool.false_eq_true, if_false, getS, pure]
  cases origin.isEmpty <;> cases c.cfg.client <;> simp [M.pure]

/-- ALTSVC on a stream carrying an origin (conflicting) is ignored without touching the stream -/
theorem C24_recv_conflicting_origin (origin field : Bytes) (st : Stream) (h : origin.isEmpty = false) :
    Stream.receiveAltSvc origin field st = (.ok ([], []), st) := by
  unfold Stream.receiveAltSvc
  simp [h, pure, M.pure]

/-- the stream event carries the `:authority` of the client's own request -/
theorem C24_recv_authority (field : Bytes) (st : Stream) (fe : FE) (st' : Stream)
    (h : Stream.receiveAltSvc [] field st = (.ok fe, st')) :
    fe.1 = [] ∧ (fe.2 = [] ∨ fe.2 = [Event.AlternativeServiceAvailable st.authority (some field)]) := by
  refine (wp_result (E := fun _ _ => True) (Q := fun fe _ =>
    fe.1 = [] ∧ (fe.2 = [] ∨ fe.2 = [Event.AlternativeServiceAvailable st.authority (some field)])) ?_).1 fe st' h
  unfold Stream.receiveAltSvc
  wps
  rw [if_neg (by decide)]
  apply wp_processInput_rule _ _ _ (fun _ _ _ _ _ => trivial)
  intro evs sh _
  wps
  split
  · exact ⟨rfl, .inl rfl⟩
  · split
    · trivial
    · exact ⟨rfl, .inr rfl⟩

end H2.C24
