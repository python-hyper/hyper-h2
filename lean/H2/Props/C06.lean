/-
  C06 — the stream lifecycle follows the RFC 7540 section 5.1 state machine.

  `rfc` below is a reference machine written from the RFC text; `classify` reads the reaction of the library off
  `stepShape`, the interpreter of the transition table that is *regenerated from stream.py on every run*.  The
  comparison is decided by the kernel over the 7 × 19 rows of the table, whatever the flags (`rows_conform`); a step
  answers as its row does (`step_res`).  `conforms` exempts ill-formed shapes; the proof makes no use of that.
-/
import H2.Proofs.StreamLemmas
import H2.Proofs.WinEq
import H2.Proofs.Shapes

namespace H2.C06
open H2 H2.Gen

inductive Reaction where
  | accept (tgt : StreamState)      -- the frame / call is accepted, stream moves to tgt
  | refuse                          -- local call refused (exception, nothing sent)
  | streamErr                       -- RST_STREAM(STREAM_CLOSED) for this stream
  | connErr                         -- connection error
  | closedErr                       -- frame on a closed stream: stream or connection error depending on how it closed
deriving DecidableEq, Repr

def isSend : StreamInputs → Bool
  | .SEND_HEADERS | .SEND_PUSH_PROMISE | .SEND_RST_STREAM | .SEND_DATA | .SEND_WINDOW_UPDATE | .SEND_END_STREAM
  | .SEND_INFORMATIONAL_HEADERS | .SEND_ALTERNATIVE_SERVICE | .UPGRADE_CLIENT | .UPGRADE_SERVER => true
  | _ => false

def classify (sh : Shape) (inp : StreamInputs) : Reaction :=
  match stepShape sh inp with
  | (.ok _, sh') => .accept sh'.state
  | (.proto, _) => if isSend inp then .refuse else .connErr
  | (.streamClosed true, _) => .streamErr
  | (.streamClosed false, _) => if isSend inp then .refuse else .closedErr

open StreamState StreamInputs in
/-- RFC 7540 section 5.1 (and 6.6, 8.2 for PUSH_PROMISE), written from the text: the reactions the RFC permits.
    One cell is stricter than the text: reserved (remote) "MUST NOT send any type of frame other than RST_STREAM,
    WINDOW_UPDATE, or PRIORITY", so SEND_WINDOW_UPDATE is permitted there, and the cell is empty. -/
def rfc (st : StreamState) (inp : StreamInputs) : List Reaction :=
  match st, inp with
  -- idle
  | IDLE, SEND_HEADERS => [.accept OPEN]
  | IDLE, RECV_HEADERS => [.accept OPEN]
  | IDLE, SEND_PUSH_PROMISE => [.accept RESERVED_LOCAL]       -- this stream is the promised one
  | IDLE, RECV_PUSH_PROMISE => [.accept RESERVED_REMOTE]
  | IDLE, UPGRADE_CLIENT => [.accept HALF_CLOSED_LOCAL]
  | IDLE, UPGRADE_SERVER => [.accept HALF_CLOSED_REMOTE]
  -- reserved (local)
  | RESERVED_LOCAL, SEND_HEADERS => [.accept HALF_CLOSED_REMOTE]
  | RESERVED_LOCAL, SEND_RST_STREAM => [.accept CLOSED]
  | RESERVED_LOCAL, RECV_RST_STREAM => [.accept CLOSED]
  | RESERVED_LOCAL, RECV_WINDOW_UPDATE => [.accept RESERVED_LOCAL]
  -- reserved (remote)
  | RESERVED_REMOTE, RECV_HEADERS => [.accept HALF_CLOSED_LOCAL]
  | RESERVED_REMOTE, SEND_RST_STREAM => [.accept CLOSED]
  | RESERVED_REMOTE, RECV_RST_STREAM => [.accept CLOSED]
  -- open
  | OPEN, SEND_HEADERS | OPEN, RECV_HEADERS | OPEN, SEND_DATA | OPEN, RECV_DATA | OPEN, SEND_WINDOW_UPDATE
  | OPEN, RECV_WINDOW_UPDATE | OPEN, SEND_PUSH_PROMISE | OPEN, RECV_PUSH_PROMISE
  | OPEN, SEND_INFORMATIONAL_HEADERS | OPEN, RECV_INFORMATIONAL_HEADERS => [.accept OPEN]
  | OPEN, SEND_END_STREAM => [.accept HALF_CLOSED_LOCAL]
  | OPEN, RECV_END_STREAM => [.accept HALF_CLOSED_REMOTE]
  | OPEN, SEND_RST_STREAM | OPEN, RECV_RST_STREAM => [.accept CLOSED]
  -- half-closed (local): may receive anything, may send WINDOW_UPDATE, PRIORITY, RST_STREAM
  | HALF_CLOSED_LOCAL, RECV_HEADERS | HALF_CLOSED_LOCAL, RECV_DATA | HALF_CLOSED_LOCAL, RECV_WINDOW_UPDATE
  | HALF_CLOSED_LOCAL, RECV_PUSH_PROMISE | HALF_CLOSED_LOCAL, RECV_INFORMATIONAL_HEADERS
  | HALF_CLOSED_LOCAL, SEND_WINDOW_UPDATE => [.accept HALF_CLOSED_LOCAL]
  | HALF_CLOSED_LOCAL, RECV_END_STREAM => [.accept CLOSED]
  | HALF_CLOSED_LOCAL, SEND_RST_STREAM | HALF_CLOSED_LOCAL, RECV_RST_STREAM => [.accept CLOSED]
  -- half-closed (remote): may send anything; receiving other than WINDOW_UPDATE, PRIORITY, RST_STREAM is a stream error
  | HALF_CLOSED_REMOTE, SEND_HEADERS | HALF_CLOSED_REMOTE, SEND_DATA | HALF_CLOSED_REMOTE, SEND_WINDOW_UPDATE
  | HALF_CLOSED_REMOTE, RECV_WINDOW_UPDATE | HALF_CLOSED_REMOTE, SEND_PUSH_PROMISE
  | HALF_CLOSED_REMOTE, SEND_INFORMATIONAL_HEADERS => [.accept HALF_CLOSED_REMOTE]
  | HALF_CLOSED_REMOTE, SEND_END_STREAM => [.accept CLOSED]
  | HALF_CLOSED_REMOTE, SEND_RST_STREAM | HALF_CLOSED_REMOTE, RECV_RST_STREAM => [.accept CLOSED]
  | HALF_CLOSED_REMOTE, RECV_HEADERS | HALF_CLOSED_REMOTE, RECV_DATA | HALF_CLOSED_REMOTE, RECV_PUSH_PROMISE
  | HALF_CLOSED_REMOTE, RECV_INFORMATIONAL_HEADERS | HALF_CLOSED_REMOTE, RECV_END_STREAM => [.streamErr]
  -- closed: WINDOW_UPDATE / RST_STREAM may still arrive; other frames are a stream or connection error
  | CLOSED, RECV_WINDOW_UPDATE | CLOSED, RECV_RST_STREAM => [.accept CLOSED]
  | CLOSED, RECV_HEADERS | CLOSED, RECV_DATA | CLOSED, RECV_PUSH_PROMISE | CLOSED, RECV_INFORMATIONAL_HEADERS
  | CLOSED, RECV_END_STREAM => [.closedErr, .connErr, .accept CLOSED]
  -- ALTSVC (RFC 7838) is advisory: never an error at this level
  | s, RECV_ALTERNATIVE_SERVICE => [.accept s]
  | s, SEND_ALTERNATIVE_SERVICE => [.accept s, .refuse]
  | _, _ => []

/-- what the RFC leaves when it permits nothing: local calls are refused, received frames are connection errors.
    Both are also added to every non-empty cell, so a refusal of a send and a connection error on a received frame
    always conform. -/
def rfcOrDefault (st : StreamState) (inp : StreamInputs) : List Reaction :=
  match rfc st inp with
  | [] => if isSend inp then [.refuse] else [.connErr]
  | l => if isSend inp then .refuse :: l else .connErr :: l     -- stricter message rules of the library may always refuse

theorem rfcOrDefault_eq (st : StreamState) (i : StreamInputs) :
    rfcOrDefault st i = (if isSend i then .refuse else .connErr) :: rfc st i := by
  unfold rfcOrDefault
  cases rfc st i <;> cases isSend i <;> rfl

/-- The reactions of the library that `rfc` does not permit and that no comment or
    document of the library describes as intended (known findings D27/D28): DATA on a reserved (or leaked idle)
    stream is answered with RST_STREAM instead of a connection error, and WINDOW_UPDATE is accepted on
    reserved(remote) and may be sent on both reserved states (on reserved(remote) the RFC permits the sending: that
    entry is a deviation from `rfc` only). -/
def knownDeviations : List (StreamState × StreamInputs × Reaction) :=
  [(.IDLE, .RECV_DATA, .streamErr), (.RESERVED_REMOTE, .RECV_DATA, .streamErr), (.RESERVED_LOCAL, .RECV_DATA, .streamErr),
   (.RESERVED_REMOTE, .RECV_WINDOW_UPDATE, .accept .RESERVED_REMOTE),
   (.RESERVED_REMOTE, .SEND_WINDOW_UPDATE, .accept .RESERVED_REMOTE),
   (.RESERVED_LOCAL, .SEND_WINDOW_UPDATE, .accept .RESERVED_LOCAL)]

def conforms (sh : Shape) (i : StreamInputs) : Bool :=
  !Good sh || (rfcOrDefault sh.state i).contains (classify sh i) || knownDeviations.contains (sh.state, i, classify sh i)

/-- the reaction a result of the row `(st, i)` amounts to -/
def react (st : StreamState) (i : StreamInputs) : ProcRes → Reaction
  | .ok _ => .accept (tgt st i)
  | .proto => if isSend i then .refuse else .connErr
  | .streamClosed true => .streamErr
  | .streamClosed false => if isSend i then .refuse else .closedErr

/-- every result a row of the generated table can produce, whatever the flags, conforms: 7 × 19 rows -/
theorem rows_conform : ∀ st i, ((rowRes st i).all fun r => (rfcOrDefault st i).contains (react st i r) ||
    knownDeviations.contains (st, i, react st i r)) = true :=
  forall_state_input (by decide +kernel)

/-- **C06 (partial: modulo the six listed deviations, for well-formed shapes — `Good` is a premise)**: for every local
    action and received frame, an acceptance has the target state RFC 7540 section 5.1 gives, and a stream error or
    a "closed" error occurs only where the RFC has one; a refusal of a local action and a connection error on a
    received frame conform everywhere (`rfcOrDefault`). -/
theorem C06_conformance_partial : ∀ sh i, conforms sh i = true := by
  intro sh i
  -- the reaction is read off the step's result and the row's target state, so conformance is a property of the rows
  have hc : classify sh i = react sh.state i (stepShape sh i).1 := by
    unfold classify
    rcases (stepShape_cases sh i).2 with ⟨evs, s', h, hs⟩ | ⟨hno, _⟩
    · rw [h]; exact congrArg Reaction.accept hs
    · revert hno; unfold okStep
      rcases stepShape sh i with ⟨_ | _ | w, _⟩
      · exact nofun
      · exact fun _ => rfl
      · cases w <;> exact fun _ => rfl
  unfold conforms
  rw [hc, Bool.or_assoc, step_res (p := fun r => (rfcOrDefault sh.state i).contains (react sh.state i r) ||
    knownDeviations.contains (sh.state, i, react sh.state i r)) (rows_conform sh.state i), Bool.or_true]

/-- the full statement (no deviation list) is false of the library: witnesses -/
theorem C06_deviation_witness :
    classify { state := .RESERVED_REMOTE, client := some true, headersSent := true } .RECV_DATA = .streamErr ∧
    classify { state := .RESERVED_REMOTE, client := some true, headersSent := true } .RECV_WINDOW_UPDATE = .accept .RESERVED_REMOTE := by
  decide

/-- A local send succeeds only where `rfc` permits sending that frame (no deviation besides
    WINDOW_UPDATE on reserved streams), and always with the RFC's target state. -/
theorem C06_send_only_where_permitted (sh : Shape) (i : StreamInputs) (tgt : StreamState)
    (hg : Good sh = true) (hs : isSend i = true) (hacc : classify sh i = .accept tgt)
    (hwu : i ≠ .SEND_WINDOW_UPDATE) : (rfc sh.state i).contains (.accept tgt) = true := by
  have h := C06_conformance_partial sh i
  simp only [conforms, hg, hacc, Bool.not_true, Bool.false_or, Bool.or_eq_true] at h
  rcases h with h | h
  · -- what `rfcOrDefault` adds for a send is `.refuse`, so the acceptance is in the RFC's own list
    rw [rfcOrDefault_eq, hs, if_pos rfl, List.contains_cons, show (Reaction.accept tgt == .refuse) = false from rfl,
      Bool.false_or] at h
    exact h
  · -- the listed deviations that accept are RECV_WINDOW_UPDATE, which is no send, and the two SEND_WINDOW_UPDATE ones
    simp [knownDeviations] at h
    rcases h with ⟨_, rfl, _⟩ | ⟨_, rfl, _⟩ | ⟨_, rfl, _⟩
    · exact absurd hs (by decide)
    · exact absurd rfl hwu
    · exact absurd rfl hwu

/-! ### streams that are still idle (the connection's part of section 5.1)

  A frame other than HEADERS / PRIORITY (and the tolerated RST_STREAM / ALTSVC) for a stream id the connection has not
  seen yet — not in the table and above the high-water mark of its side — is a connection error: the handler raises
  NoSuchStreamError with PROTOCOL_ERROR, which is not the StreamClosedError that `_receive_frame` answers with
  RST_STREAM, so `receive_data` ends the connection (C18). -/

/-- the exception of a lookup on an idle stream: a ProtocolError with code PROTOCOL_ERROR that is not a
    StreamClosedError -/
def idleErr (sid : Int) : Exc := .h2 .NoSuchStreamError (some 1) (some sid) []

theorem idleErr_is_connection_error (sid : Int) :
    (idleErr sid).isInstance .ProtocolError = true ∧ (idleErr sid).isInstance .StreamClosedError = false :=
  ⟨rfl, rfl⟩

open H2.Conn in
/-- **WINDOW_UPDATE on an idle stream** is a connection error (PROTOCOL_ERROR); the state is untouched -/
theorem C06_idle_window_update (c : Conn) (sid incr : Int) (hs : sid ≠ 0)
    (hno : hasStream c sid = false)
    (hidle : sid > (if streamIdIsOutbound c sid then c.highestOut else c.highestIn))
    (hopen : c.cstate = .CLIENT_OPEN ∨ c.cstate = .SERVER_OPEN) :
    wp (receiveWindowUpdateFrame sid incr) (fun _ _ => False) (fun e c' => e = idleErr sid ∧ c' = c) c := by
  rw [wp_receiveWindowUpdateFrame_absent c sid incr _ (connTable_open hopen _) hs hno, lookupExc_new hidle]
  exact ⟨rfl, rfl⟩

open H2.Conn in
/-- **DATA on an idle stream** is a connection error: PROTOCOL_ERROR, or the FlowControlError of a frame that overruns
    the connection window, which is charged first (nothing is said of the state) -/
theorem C06_idle_data (c : Conn) (sid : Int) (p : Bytes) (es : Bool) (fcl : Int)
    (hno : hasStream c sid = false)
    (hidle : sid > (if streamIdIsOutbound c sid then c.highestOut else c.highestIn))
    (hopen : c.cstate = .CLIENT_OPEN ∨ c.cstate = .SERVER_OPEN) :
    wp (receiveDataFrame sid p es fcl) (fun _ _ => False)
      (fun e _ => e = idleErr sid ∨ e.isInstance .FlowControlError = true) c := by
  rw [wp_receiveDataFrame_eq c sid p es fcl _ (connTable_open hopen _), lookup_none_of_hasStream hno]
  cases hw : c.inWM.window_consumed fcl with
  | mk r w =>
    cases r with
    | error x => rw [wm_consumed_err _ _ _ _ hw]; exact Or.inr rfl
    | ok v => rw [lookupExc_new hidle]; exact Or.inl rfl

-- @also H2.good_step
/-- non-vacuity: the reference machine accepts the ordinary request/response life of a stream -/
example : classify {} .SEND_HEADERS = .accept .OPEN ∧ (rfc .IDLE .SEND_HEADERS).contains (.accept .OPEN) = true := by decide

end H2.C06
