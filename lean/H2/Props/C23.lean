/-
  C23 — priority information round-trips and never changes stream state.
-/
import H2.Proofs.WireRoundTrip
import H2.Proofs.Send

namespace H2.C23
open H2 H2.Gen H2.Conn

/-- the acceptance condition of the property, as a decision -/
def priorityOk (sid : Int) (w d : Option Int) : Bool :=
  decide (1 ≤ sid ∧ sid ≤ 2147483647) &&
  (match d with | some x => decide (0 ≤ x ∧ x ≤ 2147483647 ∧ x ≠ sid) | none => true) &&
  (match w with | some x => decide (1 ≤ x ∧ x ≤ 256) | none => true)

/-- **acceptance**: the priority arguments are accepted exactly when the stream id is a valid stream id, the weight
    (if given) lies in 1..256, the dependency (if given) is a stream id or 0, and the stream does not depend on
    itself -/
theorem C23_check_iff (sid : Int) (w d : Option Int) :
    checkPriority sid w d = (if priorityOk sid w d then .ok () else .error pErr) := by
  unfold checkPriority priorityOk
  simp only [HIGHEST_ALLOWED_STREAM_ID]
  rcases d with _ | x <;> rcases w with _ | y <;> grind

/-- defaults: weight 16 (15 on the wire), depends on 0, not exclusive -/
theorem C23_defaults (sid : Int) (h : 1 ≤ sid ∧ sid ≤ 2147483647) :
    framePriority sid none none none = .ok { weight := 15, dependsOn := 0, exclusive := false } := by
  simp [framePriority, checkPriority, HIGHEST_ALLOWED_STREAM_ID, bind, Except.bind, h.1, h.2, pure, Except.pure]

/-- only clients may prioritise (the statement of `C08.C08_server_no_priority`) -/
theorem C23_server_refused (c : Conn) (sid : Int) w d e (hsrv : c.cfg.client = false) :
    wp (prioritize sid w d e) (fun _ _ => False) (fun _ c' => c' = c) c := by
  simp only [prioritize]; wps; simp [hsrv]

/-- **round trip**: what `_add_frame_priority` puts on the wire is parsed back to the same weight, dependency and
    exclusive flag by the receiving side -/
theorem C23_roundtrip (sid : Nat) (w dep : Nat) (excl : Bool) (hw : w < 256) (hd : dep < 2147483648) :
    let p : Prio := { weight := w, dependsOn := dep, exclusive := excl }
    ∃ body, (Frame.priority sid p).body? = some body ∧
      parseBody { length := body.length, type := 2, flags := 0, sid := sid } body = .ok { frame := .priority sid p } := by
  obtain ⟨hn, h1, h2⟩ := prio_word dep excl hd
  refine ⟨_, prioBytes?_eq w dep excl hw hd, ?_⟩
  have hlen : (be32 (dep + (if excl then 2147483648 else 0)) ++ [UInt8.ofNat w]).length = 5 := rfl
  simp only [parseBody, hlen, take_be32, drop_be32, bne_self_eq_false, Bool.false_eq_true, if_false, List.headD_cons,
    rd32_be32 _ hn, u8_toNat_ofNat, Nat.mod_eq_of_lt hw, h1, h2]

/-- **received PRIORITY**: in any connection state before close, the frame yields exactly one PriorityUpdated with
    the frame's weight (+1), dependency and exclusive flag, emits nothing, and leaves every stream and every
    flow-control window exactly as it was; it raises only on a self-dependency, the state untouched (that the
    exception is the ProtocolError is `C09.C09_priority_opens_nothing`) -/
theorem C23_recv (c : Conn) (sid : Int) (p : Prio) (hopen : c.cstate ≠ .CLOSED) :
    wp (receivePriorityFrame sid p)
      (fun r c' => p.dependsOn ≠ sid ∧ r = ([], [Event.PriorityUpdated sid (p.weight + 1) p.dependsOn p.exclusive]) ∧
                   c' = c)
      (fun e c' => p.dependsOn = sid ∧ c' = c) c := by
  simp only [receivePriorityFrame]
  wps
  rw [wp_connInput_stay _ _ (connTable_live hopen _)]
  by_cases hd : (p.dependsOn == sid) = true
  · rw [if_pos hd]
    exact ⟨beq_iff_eq.mp hd, rfl⟩
  · rw [if_neg hd]
    exact ⟨fun h => hd (beq_iff_eq.mpr h), rfl, rfl⟩

/-- attached to a request: `setPriorityUpdated`, which `receiveHeadersRest` applies to the events of a HEADERS frame
    with the PRIORITY flag, marks the leading request event (the PriorityUpdated that follows it there is not in the
    statement) -/
theorem C23_attached (evs : List Event) (k : HdrKind) (sid : Int) (hs : List Header) (se pu : Bool) (rest : List Event) :
    setPriorityUpdated (Event.Headers k sid hs se pu :: rest) = Event.Headers k sid hs se true :: rest := rfl

/-- non-vacuity -/
example : priorityOk 3 (some 256) (some 1) = true ∧ priorityOk 3 (some 257) none = false ∧
    priorityOk 3 none (some 3) = false ∧ priorityOk 3 none (some 2147483648) = false := by decide

end H2.C23
