/-
  C02 — emitted bytes are well-formed HTTP/2 that encode exactly the calls.

  Proved of the model, for every frame / state / argument:
   * the 9-byte header that `serialize()` writes is read back by `parse_frame_header` as the frame's length, type, flags
     and stream id (`C02_header_roundtrip`);
   * `_prepare_for_sending` — the only writer after the preamble — returns only if every frame was serialisable and no
     payload exceeds the peer's current SETTINGS_MAX_FRAME_SIZE, and appends exactly the serialisations in order
     (`C02_written_frames_fit`); for the calls covered by C29 its AssertionError is unreachable (`C29_step_partial`);
   * the frames `_build_headers_frames` makes from the encoder's output form a contiguous header block: HEADERS or
     PUSH_PROMISE, then CONTINUATIONs on the same stream, END_HEADERS on the last only (`C02_header_block_contiguous`),
     they carry that output exactly and every fragment fits (C13 theorems, listed below);
   * `initiate_connection` writes the client preface (clients only) and one SETTINGS frame with the values in force
     (`C02_preamble`);
   * per call, exactly the frames it specifies: the theorems of C11 (SETTINGS), C23 (PRIORITY fields), C24 (ALTSVC),
     C26 (PING) listed below.  That a call writes exactly its DATA / RST_STREAM / GOAWAY / WINDOW_UPDATE frame is
     decided by the correspondence check and oracle_C02 (independent frame decoder harness/wire.py); the body encodings
     of all frame types are the `C01_wire_*` theorems of Props/C01.
  Known finding D39 (setting identifiers above 255 are written modulo 256 by hyperframe) is part of the model
  (`Frame.body?` writes `be16 (mask8 id)`).
-/
import H2.Proofs.HeaderFrames
import H2.Proofs.Send
import H2.Props.C13
import H2.Props.C11
import H2.Props.C26
import H2.Props.C23
import H2.Props.C24
import H2.Props.C29
-- @also H2.C13.C13_stream_sendHeaders
-- @also H2.C13.C13_stream_pushStream
-- @also H2.C13.C13_fragments_fit
-- @also H2.C11.C11_update_settings
-- @also H2.C11.C11_settings_received
-- @also H2.C26.C26_send
-- @also H2.C26.C26_wire
-- @also H2.C23.C23_roundtrip
-- @also H2.C23.C23_defaults
-- @also H2.C24.C24_stream_frame
-- @also H2.C29.C29_step_partial
namespace H2.C02
open H2 H2.Gen H2.Conn

/-! ### the nine-byte frame header says what the frame is -/

/-- **header round trip**: what `serialize()` writes in front of the body is read back by `parse_frame_header` as the
    frame's body length, type, flags and stream id -/
theorem C02_header_roundtrip (f : Frame) (bs body : Bytes) (hb : f.body? = some body) (hs : f.serialize? = some bs)
    (hlen : body.length < 16777216) (hsid : 0 ≤ f.sid ∧ f.sid < 2147483648)
    (hfl : f.flagByte < 256) (hassoc : assocOk f.typeCode.toNat f.sid.toNat = true) :
    bs = bs.take 9 ++ body ∧
    parseFrameHeader (bs.take 9) =
      .ok { length := body.length, type := f.typeCode.toNat, flags := f.flagByte, sid := f.sid.toNat } := by
  by_cases ht : 0 ≤ f.typeCode ∧ f.typeCode < 256
  · rw [(serialize?_eq f body hb ht hfl).1, Option.some.injEq] at hs
    subst hs
    have h9 : (be24 body.length ++ [UInt8.ofNat f.typeCode.toNat, UInt8.ofNat f.flagByte] ++ be32 (mask31 f.sid) ++ body).take 9
        = be24 body.length ++ [UInt8.ofNat f.typeCode.toNat, UInt8.ofNat f.flagByte] ++ be32 (mask31 f.sid) := rfl
    have hs : rd32 (be32 f.sid.toNat) % 2147483648 = f.sid.toNat := by rw [rd32_be32 _ (by omega)]; omega
    have htc : f.typeCode.toNat % 256 = f.typeCode.toNat := by omega
    rw [h9, parseFrameHeader_be, mask31_eq hsid, hs, rd24_be24 _ hlen, u8_toNat_ofNat, u8_toNat_ofNat, htc,
      Nat.mod_eq_of_lt hfl, if_pos hassoc]
    exact ⟨rfl, rfl⟩
  · -- a type code that is no byte: `serialize()` raises struct.error
    simp [Frame.serialize?, hb, u8?, ht] at hs

/-! ### whatever is written fits the peer's MAX_FRAME_SIZE and is written whole -/

/-- **`_prepare_for_sending`** is the only writer of frames after the preamble (`Conn.sent` records what it wrote): if
    it returns, every frame was serialisable, fits the peer's current SETTINGS_MAX_FRAME_SIZE, and the bytes appended
    are exactly the frames' serialisations, in order -/
theorem C02_written_frames_fit (frames : List Frame) (c : Conn) :
    wp (prepareForSending frames)
      (fun _ c' => c'.sent = c.sent ++ frames ∧ (∀ f ∈ frames, (f.bodyLen : Int) ≤ c.maxOutFrame) ∧
          ∃ bs, frames.mapM Frame.serialize? = some bs ∧ c'.out = c.out ++ bs.foldl (· ++ ·) [])
      (fun _ _ => True) c :=
  wp_prepare_rule frames c (fun bs hser hfit => ⟨rfl, hfit, bs, hser, rfl⟩) (fun _ => trivial) fun _ _ _ => trivial

/-! ### header blocks are contiguous -/

/-- a header-block sequence as RFC 7540 section 4.3 wants it: HEADERS or PUSH_PROMISE first, then CONTINUATION frames
    on the same stream, END_HEADERS on the last frame and on no other -/
structure HeaderSeqOk (sid : Int) (frames : List Frame) : Prop where
  nonempty : frames ≠ []
  first : ∃ f, frames.head? = some f ∧ (match f with | .headers s .. => s = sid | .pushPromise s .. => s = sid | _ => False)
  rest : ∀ g ∈ frames.tail, ∃ b eh, g = Frame.continuation sid b eh
  endHeaders : ∀ i (h : i < frames.length), frames[i].endHeaders? = some (decide (i + 1 = frames.length))

/-- **`_build_headers_frames`**: the frames built from a non-empty list of fragments form a contiguous header block -/
theorem C02_header_block_contiguous (first : Bytes → Bool → Frame) (sid : Int) (blocks : List Bytes) (hne : blocks ≠ [])
    (hfirst : ∀ b eh, (first b eh).endHeaders? = some eh ∧
      (match first b eh with | .headers s .. => s = sid | .pushPromise s .. => s = sid | _ => False)) :
    HeaderSeqOk sid (mkHeaderFrames first sid blocks) := by
  cases blocks with
  | nil => exact absurd rfl hne
  | cons b rest =>
    rw [mkHeaderFrames_cons]
    refine ⟨nofun, ⟨_, rfl, (hfirst b _).2⟩, fun g hg => ?_, fun i hi => ?_⟩
    · obtain ⟨⟨blk, j⟩, _, hg⟩ := List.mem_map.mp hg
      exact ⟨blk, _, hg.symm⟩
    · simp only [List.length_cons, List.length_map, List.length_zipIdx]
      cases i with
      | zero =>
        rw [List.getElem_cons_zero, (hfirst b _).1]
        cases rest <;> simp
      | succ k =>
        simp only [List.getElem_cons_succ, List.getElem_map, List.getElem_zipIdx, Nat.zero_add, Frame.endHeaders?]
        congr 1
        rw [Bool.eq_iff_iff]
        simp only [beq_iff_eq, decide_eq_true_eq]
        omega

/-! ### the connection preamble -/

/-- **`initiate_connection`**: the client preface (clients only, and only the first time) followed by one SETTINGS
    frame carrying the local settings in force; nothing else -/
theorem C02_preamble (c : Conn) :
    wp initiateConnection
      (fun _ c' => ∃ b, (Frame.settings false c.localSettings.items).serialize? = some b ∧
          c'.out = c.out ++ (if c.cfg.client && !c.preambleSent then Gen.preamble else []) ++ b ∧
          c'.sent = c.sent ++ [Frame.settings false c.localSettings.items])
      (fun _ c' => c'.out = c.out ∧ c'.sent = c.sent) c := by
  unfold initiateConnection settingsFrameOfLocal
  wps
  rw [wp_connInput_eq]
  cases connTable c.cstate .SEND_SETTINGS with
  | none => exact ⟨rfl, rfl⟩
  | some t =>
    simp only
    wps
    cases hs : (Frame.settings false c.localSettings.items).serialize? with
    | none => simp only; wps; exact ⟨trivial, trivial⟩
    | some b => simp only; wps; exact ⟨b, rfl, rfl, trivial⟩

end H2.C02
