/-
  C26 — each received PING is answered exactly once with the same payload.
-/
import H2.Proofs.Send

namespace H2.C26
open H2 H2.Gen H2.Conn

/-- **received PING without ACK**: exactly one PingReceived carrying the payload, exactly one PING ACK frame with the
    identical payload to be appended, nothing else changes -/
theorem C26_recv_ping (c : Conn) (payload : Bytes) (hopen : c.cstate ≠ .CLOSED) :
    wp (receivePingFrame false payload)
      (fun r c' => r = ([Frame.ping true payload], [Event.PingReceived payload]) ∧ c' = c)
      (fun _ _ => False) c := by
  simp only [receivePingFrame]
  wps
  rw [wp_connInput_stay _ _ (connTable_live hopen _)]
  simp

/-- **received PING ACK**: reported as PingAckReceived, never answered -/
theorem C26_recv_ack (c : Conn) (payload : Bytes) (hopen : c.cstate ≠ .CLOSED) :
    wp (receivePingFrame true payload)
      (fun r c' => r = ([], [Event.PingAckReceived payload]) ∧ c' = c)
      (fun _ _ => False) c := by
  simp only [receivePingFrame]
  wps
  rw [wp_connInput_stay _ _ (connTable_live hopen _)]
  simp

/-- the ACK frame on the wire carries the same 8 bytes: serialisation and parsing of PING are inverse -/
theorem C26_wire (ack : Bool) (payload : Bytes) (h8 : payload.length = 8) :
    (Frame.ping ack payload).body? = some payload ∧
    parseBody { length := 8, type := 6, flags := (if ack then 1 else 0), sid := 0 } payload
      = .ok { frame := .ping ack payload } := by
  constructor
  · simp [Frame.body?, h8, zeros]
  · simp only [parseBody, h8]
    cases ack <;> simp [hasBit]

/-- **ping()**: accepts exactly 8-byte payloads; emits exactly one PING (no ACK) with that payload -/
theorem C26_send (c : Conn) (d : Bytes) (hopen : c.cstate ≠ .CLOSED) (hmax : 8 ≤ c.maxOutFrame) :
    (d.length ≠ 8 → wp (ping d) (fun _ _ => False) (fun e c' => c' = c) c) ∧
    (d.length = 8 → ∃ b, (Frame.ping false d).serialize? = some b ∧
        wp (ping d) (fun _ c' => c' = { c with out := c.out ++ b, sent := c.sent ++ [Frame.ping false d] }) (fun _ _ => False) c) := by
  constructor
  · intro h
    simp only [ping]
    wps
    simp [h]
  · intro h
    obtain ⟨⟨b, hb⟩, hl⟩ := ping_serialize false d h
    refine ⟨b, hb, ?_⟩
    simp only [ping]
    wps
    simp only [h, bne_self_eq_false, Bool.false_eq_true, if_false]
    rw [wp_connInput_stay _ _ (connTable_live hopen _)]
    rw [wp_prepare_single (Frame.ping false d) c b hb (by rw [hl]; exact hmax)]

/-- why several PINGs in one `receive_data` call are answered in arrival order: the output is only ever appended to.
    The statement is that alone — two frames written one after the other, whatever they are, leave their bytes in
    that order at the end of the output — and mentions no PING, event or `receive_data`. -/
theorem C26_order (c : Conn) (f1 f2 : Frame) (b1 b2 : Bytes) (h1 : f1.serialize? = some b1) (h2 : f2.serialize? = some b2)
    (hl1 : (f1.bodyLen : Int) ≤ c.maxOutFrame) (hl2 : (f2.bodyLen : Int) ≤ c.maxOutFrame) :
    wp (do prepareForSending [f1]; prepareForSending [f2]) (fun _ c' => c'.out = c.out ++ b1 ++ b2) (fun _ _ => False) c := by
  wps
  rw [wp_prepare_single f1 c b1 h1 hl1, wp_prepare_single f2 _ b2 h2 (by exact hl2)]

/-- non-vacuity -/
example : (Frame.ping true [1,2,3,4,5,6,7,8]).serialize? = some [0,0,8,6,1,0,0,0,0,1,2,3,4,5,6,7,8] := by decide

end H2.C26
