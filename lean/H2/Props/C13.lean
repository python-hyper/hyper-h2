/-
  C13 — header compression state stays synchronised across all calls.

  HPACK itself is not modelled: `Hp` records, in order, what the encoder is fed (`EncEv.block hs` for one complete
  `Encoder.encode(hs)` call, `EncEv.resize n` for `encoder.header_table_size = n`) and replays the real encoder's
  output.  Synchronisation then is: (1) the encoder is fed only by calls that succeed, exactly once per call, with the
  normalised list; (2) the bytes it returned are exactly what the call's HEADERS/PUSH_PROMISE/CONTINUATION frames carry,
  in order; (3) a call that raises leaves the context untouched; (4) a peer HEADER_TABLE_SIZE change reaches the
  encoder once, when it is acknowledged.  (1)-(3) are proved at the level of `H2Stream.send_headers` and
  `push_stream_in_band` for every stream state, header list and configuration.  At connection level, in every state
  satisfying the connection invariant: `C29_push_stream` has (1)-(3) for `H2Connection.push_stream` as a whole (the
  promised stream object, `locally_pushed`, the frames appended to the history carry exactly the encoder's output);
  `C29_send_headers` has (1) and (3) for `H2Connection.send_headers` (priority fields, frame-size assertion included),
  but does not say which frames the call writes, so (2) is not stated for it.  `C29_every_history` has (3) for both
  calls in every state of `C29.Reachable` (histories of public calls and `receive_data`).
-/
import H2.Props.C29
-- the connection-level `send_headers` (priority fields, frame-size assertion): context untouched on every raise
-- @also H2.C29.C29_send_headers
-- @also H2.C29.C29_push_stream
-- @also H2.C29.C29_every_history

namespace H2.C13
open H2 H2.Gen H2.Conn

/-- **`H2Stream.send_headers`**, any stream state, header list, flags and configuration -/
theorem C13_stream_sendHeaders (cfg : Config) (headers : List Header) (es pp : Bool) (s : Stream × Hp)
    (hm : 5 < s.1.maxOutFrame) :
    wp (Stream.sendHeaders cfg headers es pp)
      (fun frames s' =>
        -- exactly one encode call, of the list the configuration prescribes
        s'.2 = s.2.afterEncode (outList cfg headers) ∧
        -- and its output is what the frames carry, in order
        (frames.filterMap Frame.fragment?).flatten = s.2.encoded (outList cfg headers) ∧
        frames.length = (frames.filterMap Frame.fragment?).length)
      -- a call that raises (validation, state, trailers without END_STREAM, …) leaves the context as it was
      (fun _ s' => s'.2 = s.2) s :=
  wp_mono (stream_sendHeaders_all cfg headers es pp s hm) (fun _ _ h => h.1.1) (fun _ _ h => h.1.1)

/-- **`H2Stream.push_stream_in_band`** -/
theorem C13_stream_pushStream (cfg : Config) (related : Int) (headers : List Header) (s : Stream × Hp)
    (hm : 5 < s.1.maxOutFrame) :
    wp (Stream.pushStreamInBand cfg related headers)
      (fun frames s' =>
        s'.2 = s.2.afterEncode (outList cfg headers) ∧
        (frames.filterMap Frame.fragment?).flatten = s.2.encoded (outList cfg headers) ∧
        frames.length = (frames.filterMap Frame.fragment?).length)
      (fun _ s' => s'.2 = s.2) s :=
  wp_mono (stream_pushInBand_all cfg related headers s (Int.lt_trans (by decide) hm)) (fun _ _ h => h.1) (fun _ _ h => h.1)

/-- one `encode` call appends exactly one entry to the encoder's feed: the list itself -/
theorem C13_one_encode (hp : Hp) (hs : List Header) :
    (hp.afterEncode hs).encLog = hp.encLog ++ [EncEv.block hs] ∧ (hp.afterEncode hs).decLog = hp.decLog :=
  hp.afterEncode_log hs

/-- lifted to the connection: `withStreamHp` runs the stream method on the connection's one HPACK context -/
theorem C13_conn_partial {α : Type} (sid : Int) (m : SH α) (c : Conn) (hp' : Hp)
    (hspec : ∀ st, c.streams.lookup sid = some st →
      wp m (fun _ s' => s'.2 = hp') (fun _ s' => s'.2 = c.hp) (st, c.hp)) :
    wp (withStreamHp sid m) (fun _ c' => c'.hp = hp') (fun _ c' => c'.hp = c.hp) c := by
  rw [wp_withStreamHp]
  cases hl : c.streams.lookup sid with
  | none => rfl
  | some st => exact hspec st hl

/-- **peer HEADER_TABLE_SIZE**: acknowledging a changed value tells the encoder once; any other acknowledged change
    leaves the compression context alone -/
theorem C13_table_size (changes : List (Int × Option Int × Int)) (c : Conn) :
    (remoteOtherChanges changes c).hp.encLog =
      (match findChange changes SettingCodes.HEADER_TABLE_SIZE with
       | some (_, new) => if new != c.encTableSize then c.hp.encLog ++ [EncEv.resize new] else c.hp.encLog
       | none => c.hp.encLog) ∧
    (remoteOtherChanges changes c).hp.decLog = c.hp.decLog := by
  rw [remoteOtherChanges_eq]
  exact ⟨rfl, rfl⟩

/-- the fragments fit: the first leaves room for the priority fields / promised stream id, the others fill a frame -/
theorem C13_fragments_fit (cfg : Config) (headers : List Header) (fl : HdrFlags) (ov : Int) (s : Stream × Hp)
    (hm : ov < s.1.maxOutFrame) (hov : 0 ≤ ov) :
    wp (buildHeaderBlocks cfg headers fl ov)
      (fun blocks _ => blocks ≠ [] ∧ (∀ b ∈ blocks.head?, (b.length : Int) + ov ≤ s.1.maxOutFrame) ∧
          (∀ b ∈ blocks.tail, (b.length : Int) ≤ s.1.maxOutFrame ∧ b ≠ []))
      (fun _ s' => s' = s) s :=
  wp_mono (buildHeaderBlocks_all cfg headers fl ov s hm hov) (fun _ _ ⟨_, _, hne, hsz1, hsz2⟩ => ⟨hne, hsz1, hsz2⟩)
    (fun _ _ h => h.1)

end H2.C13
