/-
  C01 — two h2 endpoints exchange every successful send faithfully.

  The property is about two copies of the model talking through two byte pipes.  What is PROVED here is the part of it
  that does not depend on the two endpoints' joint state:

  * the wire (`C01_wire_*`): every frame type, as `_prepare_for_sending` writes it, is read back by the other
    endpoint's `parse_body` as the very same frame object (with C02_header_roundtrip for the nine header bytes,
    C23_roundtrip for PRIORITY and C25_settings_roundtrip for SETTINGS): what reaches the peer's frame handlers is what
    the sender's call built;
  * the two stream state machines fit together, for every schedule (`H2.PairFsm.full_never_refused`): two copies of the
    stream state machine regenerated from stream.py, connected by two FIFO queues of unbounded length; each side sends,
    at any time, any frame its own machine accepts (except D17b's DATA / END_STREAM before response headers,
    `fsm_sync_D17b_witness`), deliveries happen at any time; then in every reachable configuration every delivery is
    accepted by the receiving machine, or dealt with quietly by a stream that side has closed meanwhile — never a
    connection error, never a stream error on a live stream.  (Method: the frames that change a stream's state give a
    finite reachable set, which the kernel searches and checks closed, `reduced_never_refused`; the other five kinds
    change nothing, `neutral_kinds`, and are accepted where they arrive, by an invariant over the queues.)  The
    one-frame statements `fsm_sync`, `fsm_open`, `fsm_cross`, `closed_quiet`, `reset_swallows` say more about the
    states (mirror images);
  * flow control fits together, for every schedule (`H2.PairCredit.data_never_overruns`): one window between two
    endpoints — the sender's view, the receiver's generated `WindowManager`, DATA and SETTINGS acknowledgements in
    flight one way, WINDOW_UPDATEs and INITIAL_WINDOW_SIZE changes the other way, queues of any length — a DATA frame
    the sender was allowed to send is never refused by `window_consumed`, windows driven negative by a reduction
    included (the empty frame in a negative window is where the proof needs D43's repair).  This composes the
    arithmetic of C03 / C04 / C11; it is not yet a statement about two `H2Connection`s;
  * header blocks (`H2.Pair.emitted_block_is_accepted`): a block that passed the sender's normalisation and
    validation satisfies the receiver's rule book for the same block type;
  * chunking (`C21_chunks`, `C21_chunks_out`): how the bytes of one direction are cut into `receive_data` calls changes
    neither events nor output nor state (after an error, the state but for the frame buffer);
  * calls that raise contribute nothing (`C29_every_call`): in every reachable state a raising call has written no byte;
  * two races the pair histories exposed and the repairs closed: the empty END_STREAM frame in a negative window
    (`C04_empty_frame_fits`, D43) and HEADERS for a reset stream already cleaned out of the table with the
    concurrency limit reached (`C20_forgotten_headers`, `C10_closed_stream_not_counted`, D48).

  What is NOT proved (hence level `partial`): the same for the whole connection — the joint invariant of the two
  endpoints' windows, settings, stream tables and header validation with the frames in flight — from which "the
  receiver's handler accepts the frame and reports exactly the sender's call" would follow for every schedule.  That
  part is decided by the correspondence check and `oracle_C01` on pair histories: random programs (any call in any
  state) and the conversation generator (`harness/conversation.py`: only calls the application may make, every
  delivery and every event judged), with the known findings D25, D17b, D46, D47, D8, D39, D45, D22, D44 listed in
  known_findings.json.
-/
-- (most imports below are there for the `@also` lines: theorems of other modules that this property cites and that
--  are audited with it)
import H2.Proofs.PairCredit
-- the credit equation of one window between two endpoints, everything in flight (arithmetic of windows.py + C03/C04/C11)
-- @also H2.PairCredit.data_never_overruns
import H2.Proofs.WireRoundTrip
import H2.Props.C26
import H2.Proofs.PairHeaders
import H2.Proofs.PairFsm
import H2.Proofs.PairReachMain
import H2.Props.C02
import H2.Props.C04
import H2.Props.C10
import H2.Props.C20
import H2.Props.C21
import H2.Props.C23
import H2.Props.C25
import H2.Props.C29
-- @also H2.Pair.emitted_block_is_accepted
-- @also H2.PairFsm.fsm_sync
-- @also H2.PairFsm.fsm_open
-- @also H2.PairFsm.fsm_cross
-- @also H2.PairFsm.closed_quiet
-- @also H2.PairFsm.reset_swallows
-- @also H2.PairFsm.fsm_sync_D17b_witness
-- @also H2.PairFsm.reduced_never_refused
-- @also H2.PairFsm.neutral_kinds
-- @also H2.PairFsm.full_never_refused
-- @also H2.PairFsm.full_delivery_fine
-- @also H2.C02.C02_header_roundtrip
-- @also H2.C23.C23_roundtrip
-- @also H2.C25.C25_settings_roundtrip
-- @also H2.C21.C21_chunks
-- @also H2.C21.C21_chunks_out
-- @also H2.C29.C29_every_call
-- @also H2.C04.C04_empty_frame_fits
-- @also H2.C20.C20_forgotten_headers
-- @also H2.C10.C10_closed_stream_not_counted

namespace H2.C01
open H2 H2.Gen H2.Conn

/-- **DATA** without padding (as `send_data` / `end_stream` write it) is read back as itself, and the
    flow-controlled length the receiver charges is the one the sender charged -/
theorem C01_wire_data (sid : Nat) (payload : Bytes) (es : Bool) :
    (Frame.data sid payload es none).body? = some payload ∧
    parseBody { length := payload.length, type := 0, flags := (Frame.data sid payload es none).flagByte, sid := sid } payload
      = .ok { frame := .data sid payload es none, fcl := payload.length } := by
  constructor
  · simp [Frame.body?, zeros]
  · have hb := hasBit_flags es false false false
    simp only [Frame.flagByte, Option.isSome_none, Bool.false_eq_true, if_false, Nat.add_zero] at hb ⊢
    unfold parseBody
    simp [hb.1, hb.2.2.1, pySlice_all]

/-- **DATA** with padding: the pad length byte and the padding count towards the flow-controlled length -/
theorem C01_wire_data_padded (sid : Nat) (payload : Bytes) (es : Bool) (pad : Nat) (hp : pad < 256) :
    (Frame.data sid payload es (some pad)).body? = some ([UInt8.ofNat pad] ++ payload ++ zeros pad) ∧
    parseBody { length := 1 + payload.length + pad, type := 0, flags := (Frame.data sid payload es (some (pad : Int))).flagByte, sid := sid }
        ([UInt8.ofNat pad] ++ payload ++ zeros pad)
      = .ok { frame := .data sid payload es (some pad), fcl := payload.length + (pad + 1) } := by
  constructor
  · simp [Frame.body?, u8?_nat pad hp]
  · have hb := hasBit_flags es false true false
    simp only [Frame.flagByte, Option.isSome_some, Bool.false_eq_true, if_false, if_true, Nat.add_zero] at hb ⊢
    unfold parseBody
    have hhead : (([UInt8.ofNat pad] ++ payload ++ zeros pad).headD 0).toNat = pad := by
      simp [Nat.mod_eq_of_lt hp]
    have hsl : pySlice ([UInt8.ofNat pad] ++ payload ++ zeros pad) 1
        ((([UInt8.ofNat pad] ++ payload ++ zeros pad).length : Int) - pad) = payload := by
      have := pySlice_mid [UInt8.ofNat pad] payload (zeros pad)
      rwa [zeros_length] at this
    simp only [hb.1, hb.2.2.1, Bool.true_and, if_true, hhead, hsl]
    simp [zeros_length]
    omega

/-- **HEADERS** (first frame of a block) without the priority fields -/
theorem C01_wire_headers (sid : Nat) (block : Bytes) (es eh : Bool) :
    (Frame.headers sid block es eh none none).body? = some block ∧
    parseBody { length := block.length, type := 1, flags := (Frame.headers sid block es eh none none).flagByte, sid := sid } block
      = .ok { frame := .headers sid block es eh none none } := by
  constructor
  · simp [Frame.body?, zeros]
  · have hb := hasBit_flags es eh false false
    simp only [Frame.flagByte, Option.isSome_none, Bool.false_eq_true, if_false, Nat.add_zero] at hb ⊢
    unfold parseBody
    simp [hb.1, hb.2.1, hb.2.2.1, hb.2.2.2, pySlice_all]

/-- **HEADERS** with the priority fields: the exclusive bit shares a 32-bit word with the dependency -/
theorem C01_wire_headers_priority (sid : Nat) (block : Bytes) (es eh : Bool) (w dep : Nat) (excl : Bool)
    (hw : w < 256) (hd : dep < 2147483648) :
    let p : Prio := { weight := w, dependsOn := dep, exclusive := excl }
    let pb := be32 (dep + (if excl then 2147483648 else 0)) ++ [UInt8.ofNat w]
    (Frame.headers sid block es eh none (some p)).body? = some (pb ++ block) ∧
    parseBody { length := 5 + block.length, type := 1, flags := (Frame.headers sid block es eh none (some p)).flagByte, sid := sid }
        (pb ++ block)
      = .ok { frame := .headers sid block es eh none (some p) } := by
  intro p pb
  obtain ⟨hn, h1, h2⟩ := prio_word dep excl hd
  constructor
  · simp [Frame.body?, p, pb, prioBytes?_eq w dep excl hw hd, zeros]
  · have hb := hasBit_flags es eh false true
    simp only [Frame.flagByte, Option.isSome_none, Option.isSome_some, Bool.false_eq_true, if_false, if_true, Nat.add_zero] at hb ⊢
    have hpl : pb.length = 5 := rfl
    have h3 : pySlice (pb ++ block) 5 (((pb ++ block).length : Int) - (0 : Nat)) = block := by
      simpa [hpl] using pySlice_mid pb block []
    have h4 : ((pb ++ block).drop 4).headD 0 = UInt8.ofNat w := rfl
    have h5 : (pb ++ block).take 4 = be32 (dep + (if excl then 2147483648 else 0)) := rfl
    unfold parseBody
    simp only [hb.1, hb.2.1, hb.2.2.1, hb.2.2.2, Bool.false_and, Bool.true_and, Bool.false_eq_true, if_false, if_true, h3, h4, h5,
      rd32_be32 _ hn, u8_toNat_ofNat, Nat.mod_eq_of_lt hw, h1, h2]
    simp [hpl, p]

theorem C01_wire_continuation (sid : Nat) (block : Bytes) (eh : Bool) :
    (Frame.continuation sid block eh).body? = some block ∧
    parseBody { length := block.length, type := 9, flags := (Frame.continuation sid block eh).flagByte, sid := sid } block
      = .ok { frame := .continuation sid block eh } := by
  refine ⟨rfl, ?_⟩
  cases eh <;> simp [parseBody, Frame.flagByte, hasBit]

/-- **PUSH_PROMISE** (promised id even, non-zero, 31 bits: what `_begin_new_stream` lets through) -/
theorem C01_wire_push_promise (sid promised : Nat) (block : Bytes) (eh : Bool)
    (hp0 : promised ≠ 0) (hpe : promised % 2 = 0) (hp : promised < 2147483648) :
    (Frame.pushPromise sid promised block eh none).body? = some (be32 promised ++ block) ∧
    parseBody { length := 4 + block.length, type := 5, flags := (Frame.pushPromise sid promised block eh none).flagByte, sid := sid }
        (be32 promised ++ block)
      = .ok { frame := .pushPromise sid promised block eh none } := by
  constructor
  · simp [Frame.body?, u32?_nat promised (by omega), zeros]
  · have hb := hasBit_flags false eh false false
    simp only [Frame.flagByte, Option.isSome_none, Bool.false_eq_true, if_false, Nat.add_zero, Nat.zero_add] at hb ⊢
    unfold parseBody
    have h3 : pySlice (be32 promised ++ block) (0 + 4) (((be32 promised ++ block).length : Int) - (0 : Nat)) = block := by
      simpa [be32_length] using pySlice_mid (be32 promised) block []
    have h4 : ¬ ((be32 promised ++ block).length < 0 + 4) := by simp [be32_length]
    simp only [hb.2.1, hb.2.2.1, Bool.false_and, Bool.false_eq_true, if_false, List.drop_zero, take_be32, h3, h4,
      rd32_be32 promised (by omega)]
    simp [hp0, hpe]

/-- **RST_STREAM**: the error code of `reset_stream` comes through unchanged -/
theorem C01_wire_rst_stream (sid code : Nat) (hc : code < 4294967296) :
    (Frame.rstStream sid code).body? = some (be32 code) ∧
    parseBody { length := 4, type := 3, flags := 0, sid := sid } (be32 code) = .ok { frame := .rstStream sid code } :=
  ⟨u32?_nat code hc, by simp [parseBody, be32_length, rd32_be32 code hc]⟩

theorem C01_wire_ping (ack : Bool) (payload : Bytes) (h : payload.length = 8) :
    (Frame.ping ack payload).body? = some payload ∧
    parseBody { length := 8, type := 6, flags := (Frame.ping ack payload).flagByte, sid := 0 } payload
      = .ok { frame := .ping ack payload } :=
  C26.C26_wire ack payload h

theorem C01_wire_window_update (sid incr : Nat) (h1 : 1 ≤ incr) (h2 : incr ≤ 2147483647) :
    (Frame.windowUpdate sid incr).body? = some (be32 incr) ∧
    parseBody { length := 4, type := 8, flags := 0, sid := sid } (be32 incr) = .ok { frame := .windowUpdate sid incr } := by
  constructor
  · simp [Frame.body?, mask31_nat (show incr < 2147483648 by omega)]
  · simp [parseBody, be32_length, rd32_be32 incr (by omega)]
    omega

theorem C01_wire_goaway (last code : Nat) (extra : Bytes) (hl : last < 2147483648) (hc : code < 4294967296) :
    (Frame.goaway last code extra).body? = some (be32 last ++ be32 code ++ extra) ∧
    parseBody { length := 8 + extra.length, type := 7, flags := 0, sid := 0 } (be32 last ++ be32 code ++ extra)
      = .ok { frame := .goaway last code extra } := by
  constructor
  · simp [Frame.body?, mask31_nat hl, u32?_nat code hc]
  · have h8 : (be32 last ++ be32 code ++ extra).drop 8 = extra := rfl
    have hlen : ¬ (be32 last ++ be32 code ++ extra).length < 8 := by simp [be32]
    rw [List.append_assoc] at *
    simp only [parseBody, hlen, if_false, take_be32, drop_be32, h8, rd32_be32 last (by omega), rd32_be32 code hc]

theorem C01_wire_altsvc (sid : Nat) (origin field : Bytes) (ho : origin.length < 65536) :
    (Frame.altsvc sid origin field).body? = some (be16 origin.length ++ origin ++ field) ∧
    parseBody { length := 2 + origin.length + field.length, type := 10, flags := 0, sid := sid }
        (be16 origin.length ++ origin ++ field)
      = .ok { frame := .altsvc sid origin field } := by
  constructor
  · simp [Frame.body?, u16?_nat origin.length ho]
  · have h3 : (be16 origin.length ++ (origin ++ field)).drop (2 + origin.length) = field := by
      rw [← List.append_assoc]; exact List.drop_left' (by simp [be16_length])
    have h0 : ¬ ((be16 origin.length ++ (origin ++ field)).length < 2) := by simp [be16_length]
    have h4 : ¬ ((origin ++ field).length < origin.length) := by simp
    rw [List.append_assoc]
    simp only [parseBody, h0, if_false, take_be16, drop_be16, h3, rd16_be16 _ ho, h4, List.take_left' rfl]

/-- non-vacuity: a concrete padded DATA frame ("hi!", END_STREAM, two bytes of padding) goes through the round trip -/
example : parseBody { length := 1 + 3 + 2, type := 0, flags := (Frame.data 1 [104, 105, 33] true (some (2 : Nat))).flagByte, sid := 1 }
    ([UInt8.ofNat 2] ++ [104, 105, 33] ++ zeros (2 : Nat))
    = .ok { frame := .data (1 : Nat) [104, 105, 33] true (some (2 : Nat)), fcl := 3 + (2 + 1) } :=
  (C01_wire_data_padded 1 [104, 105, 33] true 2 (by decide)).2

end H2.C01
