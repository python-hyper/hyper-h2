/-
  C14 — outbound header blocks are normalised and RFC 7540 section 8.1.2 conformant.

  `NormalisedField` (per field: lowercase trimmed name, trimmed value, not connection-specific, sensitive fields marked
  never-indexed) is what `normalize_outbound_headers` establishes; `ConformantOut` (TE only "trailers", pseudo-header
  shape and role, :authority/Host, :path) is what `validate_outbound_headers` checks.  Both are proved of the model of
  the two pipelines for every header list (bytes or text names and values; lengths are counted in bytes, so the
  20-character limit for short cookies is met exactly only by ASCII text), and `_build_headers_frames` is proved to hand
  the HPACK encoder exactly the normalised list, only when it is conformant, and nothing otherwise.
-/
import H2.Proofs.HeaderRules
import H2.Proofs.PairHeaders
-- the pair-level consequence: what C14 lets out, C15 lets in
-- @also H2.Pair.emitted_block_is_accepted
import H2.Proofs.HeaderSend

namespace H2.C14
open H2 H2.Gen

/-- the rules a block emitted under the default configuration meets -/
structure EmittedOk (hs : List Header) (fl : HdrFlags) : Prop where
  fields : ∀ h ∈ hs, NormalisedField h
  block : ConformantOut hs fl

/-- **normalisation**: every field that `normalize_outbound_headers` lets through is lowercase, trimmed, not
    connection-specific, and never-indexed if it is authorization, proxy-authorization or a cookie shorter than 20
    bytes -/
theorem C14_normalised (hs : List Header) : ∀ h ∈ normalizeOutbound hs, NormalisedField h :=
  normalizeOutbound_fields hs

/-- normalisation never invents or reorders fields: what it lets through is a sublist of the lower-cased, trimmed input
    (which fields it drops is not stated; `NormalisedField.notConnectionSpecific` says which it does not keep) -/
theorem C14_normalise_keeps_order (hs : List Header) :
    ((normalizeOutbound hs).map fun h => (h.name, h.value)).Sublist
      (hs.map fun h => ((HStr.lower h.name).strip, h.value.strip)) := by
  unfold normalizeOutbound
  -- marking a field never-indexed changes neither its name nor its value
  rw [List.map_map, List.map_congr_left (g := fun h => (h.name, h.value)) fun a _ => by
    simp only [Function.comp_apply, (secureHeader_name a).1, (secureHeader_name a).2]]
  refine List.Sublist.trans (List.Sublist.map _ List.filter_sublist) ?_
  rw [List.map_map, List.map_map]
  exact List.Sublist.refl _

/-- **validation accepts exactly the conformant blocks** and returns them unchanged -/
theorem C14_validate_iff (hs : List Header) (fl : HdrFlags) :
    validateOutbound hs fl = .ok hs ↔ ConformantOut hs fl := (validateOutbound_iff hs fl).1

/-- **what normalisation cannot repair is refused** with ProtocolError -/
theorem C14_refused (hs : List Header) (fl : HdrFlags) (h : ¬ ConformantOut hs fl) :
    validateOutbound hs fl = .error (mkExc .ProtocolError) := (validateOutbound_iff hs fl).2 h

/-- the default pipeline (normalise, then validate): accepted iff the normalised list is conformant, and then the result
    is that list, which meets every rule -/
theorem C14_default_pipeline (hs out : List Header) (fl : HdrFlags) :
    validateOutbound (normalizeOutbound hs) fl = .ok out ↔
      out = normalizeOutbound hs ∧ EmittedOk out fl := by
  constructor
  · intro h
    have hid : out = normalizeOutbound hs := validateOutbound_id _ _ _ h
    subst hid
    exact ⟨rfl, C14_normalised hs, (C14_validate_iff _ fl).mp h⟩
  · rintro ⟨rfl, _, hb⟩
    exact (C14_validate_iff _ fl).mpr hb

/-! ### what reaches the HPACK encoder -/

/-- **`_build_headers_frames`**: with normalisation and validation on (the default) the encoder is fed once, with the
    normalised list, and only if that list is conformant; a refused list leaves the stream and the HPACK state
    untouched (nothing is encoded) -/
theorem C14_encoder_fed (cfg : Config) (headers : List Header) (fl : HdrFlags) (ov : Int) (s : Stream × Hp)
    (hn : cfg.normOut = true) (hv : cfg.valOut = true) (hm : 0 < s.1.maxOutFrame) :
    wp (buildHeaderBlocks cfg headers fl ov)
      (fun _ s' => s'.2.encLog = s.2.encLog ++ [EncEv.block (normalizeOutbound headers)] ∧
          EmittedOk (normalizeOutbound headers) fl ∧ s'.1 = s.1)
      (fun e s' => s' = s ∧ e = mkExc .ProtocolError ∧ ¬ ConformantOut (normalizeOutbound headers) fl) s := by
  have ho : outList cfg headers = normalizeOutbound headers := by simp only [outList, hn, if_true]
  refine wp_buildHeaderBlocks cfg headers fl ov s hm (fun hc => ?_) (fun _ hc => ?_) <;> rw [ho] at hc
  · exact ⟨by rw [ho]; exact (s.2.afterEncode_log _).1, ⟨C14_normalised headers, hc hv⟩, rfl⟩
  · exact ⟨rfl, rfl, hc⟩

/-- with validation switched off the encoder is fed the normalised list whatever it is: only the per-field rules hold -/
theorem C14_encoder_fed_unvalidated (cfg : Config) (headers : List Header) (fl : HdrFlags) (ov : Int) (s : Stream × Hp)
    (hn : cfg.normOut = true) (hv : cfg.valOut = false) (hm : 0 < s.1.maxOutFrame) :
    wp (buildHeaderBlocks cfg headers fl ov)
      (fun _ s' => s'.2.encLog = s.2.encLog ++ [EncEv.block (normalizeOutbound headers)] ∧
          (∀ h ∈ normalizeOutbound headers, NormalisedField h))
      (fun _ _ => False) s := by
  have ho : outList cfg headers = normalizeOutbound headers := by simp only [outList, hn, if_true]
  refine wp_buildHeaderBlocks cfg headers fl ov s hm (fun _ => ?_) (fun h => by rw [hv] at h; cases h)
  exact ⟨by rw [ho]; exact (s.2.afterEncode_log _).1, C14_normalised headers⟩

/-- with normalisation switched off and validation on, the list is encoded as given, only if it is conformant -/
theorem C14_encoder_fed_unnormalised (cfg : Config) (headers : List Header) (fl : HdrFlags) (ov : Int) (s : Stream × Hp)
    (hn : cfg.normOut = false) (hv : cfg.valOut = true) (hm : 0 < s.1.maxOutFrame) :
    wp (buildHeaderBlocks cfg headers fl ov)
      (fun _ s' => s'.2.encLog = s.2.encLog ++ [EncEv.block headers] ∧ ConformantOut headers fl)
      (fun e s' => s' = s ∧ e = mkExc .ProtocolError ∧ ¬ ConformantOut headers fl) s := by
  have ho : outList cfg headers = headers := by simp only [outList, hn, Bool.false_eq_true, if_false]
  refine wp_buildHeaderBlocks cfg headers fl ov s hm (fun hc => ?_) (fun _ hc => ?_) <;> rw [ho] at hc
  · exact ⟨by rw [ho]; exact (s.2.afterEncode_log _).1, hc hv⟩
  · exact ⟨rfl, rfl, hc⟩

/-! ### the rules are satisfiable and do bite -/

def sloppyRequest : List Header :=
  [⟨.s (strBytes ":method"), .s (strBytes "GET"), false⟩, ⟨.s (strBytes ":scheme"), .s (strBytes "https"), false⟩,
   ⟨.s (strBytes ":path"), .s (strBytes "/"), false⟩, ⟨.s (strBytes ":authority"), .s (strBytes "example.com"), false⟩,
   ⟨.b (strBytes " X-Custom "), .b (strBytes " v "), false⟩, ⟨.b (strBytes "Connection"), .b (strBytes "close"), false⟩,
   ⟨.b (strBytes "Authorization"), .b (strBytes "secret"), false⟩]
def requestFlags : HdrFlags := { isClient := some true, isTrailer := false, isResponse := false, isPush := false }

def acceptsOut (hs : List Header) (fl : HdrFlags) : Bool :=
  match validateOutbound hs fl with | .ok _ => true | .error _ => false

theorem acceptsOut_iff (hs : List Header) (fl : HdrFlags) : acceptsOut hs fl = true ↔ ConformantOut hs fl := by
  rw [← C14_validate_iff]
  unfold acceptsOut
  cases h : validateOutbound hs fl with
  | ok out => simp [validateOutbound_id hs out fl h]
  | error e => simp

/-- a sloppy but repairable request: normalisation lower-cases, trims, drops Connection, marks Authorization -/
example : EmittedOk (normalizeOutbound sloppyRequest) requestFlags :=
  ⟨C14_normalised _, (acceptsOut_iff _ _).mp (by decide +kernel)⟩
example : (normalizeOutbound sloppyRequest).map (fun h => (h.name.bs, h.ni)) =
    [(strBytes ":method", false), (strBytes ":scheme", false), (strBytes ":path", false), (strBytes ":authority", false),
     (strBytes "x-custom", false), (strBytes "authorization", true)] := by decide +kernel
/-- not repairable: TE with another value -/
example : ¬ ConformantOut (normalizeOutbound (sloppyRequest ++ [⟨.b (strBytes "TE"), .b (strBytes "gzip"), false⟩])) requestFlags := by
  rw [← acceptsOut_iff]; decide +kernel

end H2.C14
