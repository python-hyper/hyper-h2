/-
  C04 — inbound flow control is enforced exactly at the advertised windows.

  `WindowManager` is the reference definitions of H2/Gen/Windows, proved equal on every run to the functions
  regenerated from windows.py (H2/Gen/Bridge), so the theorems below are re-checked against the current source; the
  connection-level methods are the hand model.
-/
import H2.Proofs.PairCredit
-- the credit equation of one window between two endpoints, everything in flight (arithmetic of windows.py + C03/C04/C11)
-- @also H2.PairCredit.data_never_overruns
import H2.Proofs.ApiOk

namespace H2.C04
open H2 H2.Gen H2.Conn

/-- **enforcement** (`window_consumed`): a DATA frame of flow-controlled length `n` is refused with FlowControlError
    exactly when it overruns the advertised window; one that fits is never refused.  A frame of length zero overruns
    nothing, also when a lowered INITIAL_WINDOW_SIZE has the window below zero (RFC 7540 §6.9.1, §6.9.2: the empty
    DATA frame that ends a stream is accepted there) -/
theorem C04_consumed (w : WindowManager) (n : Int) :
    (w.window_consumed n).1 = (if 0 < n ∧ w.current_window_size - n < 0 then .error (.h2 .FlowControlError) else .ok none) ∧
    (w.window_consumed n).2 = { w with current_window_size := w.current_window_size - n } := by
  rw [WindowManager.window_consumed_eq]; exact ⟨rfl, rfl⟩

/-- an empty frame is never refused for flow-control reasons, whatever the window -/
theorem C04_empty_frame_fits (w : WindowManager) : (w.window_consumed 0).1 = .ok none := by
  rw [(C04_consumed w 0).1]; simp

/-- FlowControlError carries FLOW_CONTROL_ERROR -/
theorem C04_code : ExcClass.FlowControlError.classCode = some 3 := by decide

/-- **atomicity** (`window_opened`): a refused window increment changes nothing; an accepted one adds exactly the
    increment to the window and leaves the count of processed bytes alone (nothing is said of the maximum) -/
theorem C04_opened (w : WindowManager) (n : Int) :
    (w.current_window_size + n > 2147483647 → w.window_opened n = (.error (.h2 .FlowControlError), w)) ∧
    (w.current_window_size + n ≤ 2147483647 →
      (w.window_opened n).1 = .ok none ∧ (w.window_opened n).2.current_window_size = w.current_window_size + n ∧
      (w.window_opened n).2.bytes_processed = w.bytes_processed) := by
  rw [WindowManager.window_opened_eq]
  exact ⟨fun h => if_pos h, fun h => by rw [if_neg (Int.not_lt.mpr h)]; exact ⟨rfl, rfl, rfl⟩⟩

/-- **what is emitted is what is added**: the increment `process_bytes` returns (it becomes the WINDOW_UPDATE) is
    exactly the amount by which the advertised window grows -/
theorem C04_process_bytes (w : WindowManager) (n : Int) :
    match w.process_bytes n with
    | (.ok (some v), w') => w'.current_window_size = w.current_window_size + v ∧ w'.max_window_size = w.max_window_size
    | (.ok none, w') => w'.current_window_size = w.current_window_size ∧ w'.max_window_size = w.max_window_size
    | (.error _, _) => False := by
  obtain ⟨v, w', he, hmax, hcur, _⟩ := WindowManager.process_bytes_spec w n
  rw [he]
  cases v with
  | none => exact ⟨by simpa using hcur, hmax⟩
  | some k => exact ⟨hcur, hmax⟩

/-- **query**: `remote_flow_control_window` reports the smaller of the connection's and the stream's advertised window
    and changes nothing -/
theorem C04_query (c : Conn) (sid : Int) (st : Stream) (h : c.streams.lookup sid = some st) :
    wp (remoteFlowControlWindow sid)
      (fun v c' => v = min c.inWM.current_window_size st.inWM.current_window_size ∧ c' = c) (fun _ _ => False) c :=
  (wp_readStream sid (fun c st => min c.inWM.current_window_size st.inWM.current_window_size) c st h).mpr ⟨rfl, rfl⟩

/-- **a window-changing call that raises changes no window** (connection-level increment): whatever goes wrong in
    `increment_flow_control_window(n)`, the advertised connection window and every stream are as before -/
theorem C04_increment_conn_atomic (c : Conn) (n : Int) (hmax : 4 ≤ c.maxOutFrame) :
    wp (incrementFlowControlWindow n none)
      (fun _ c' => c'.inWM.current_window_size = c.inWM.current_window_size + n ∧ c'.streams = c.streams ∧
          c'.sent = c.sent ++ [Frame.windowUpdate 0 n] ∧ c'.outWin = c.outWin)
      (fun _ c' => c'.inWM = c.inWM ∧ c'.streams = c.streams ∧ c'.out = c.out ∧ c'.sent = c.sent ∧ c'.outWin = c.outWin) c := by
  obtain ⟨⟨b, hb⟩, hl⟩ := wu_serialize 0 n
  unfold incrementFlowControlWindow
  wps
  refine ite_intro (fun _ => ⟨trivial, trivial, trivial, trivial, trivial⟩) fun _ => ?_
  rw [wp_connInput_eq]
  split
  · wps
    rw [wp_onConnWM, WindowManager.window_opened_eq]
    by_cases hov : 2147483647 < c.inWM.current_window_size + n
    · rw [if_pos hov]; exact ⟨rfl, rfl, rfl, rfl, rfl⟩
    · rw [if_neg hov]
      dsimp only
      wps
      rw [wp_prepare_single (Frame.windowUpdate 0 n) _ b hb (by rw [hl]; exact hmax)]
      exact ⟨rfl, rfl, rfl, rfl⟩
  · exact ⟨rfl, rfl, rfl, rfl, rfl⟩

/-- `acknowledge_received_data` for a stream id that was never used changes nothing, whether it returns or raises -/
theorem C04_ack_unknown_atomic (c : Conn) (size sid : Int) (hno : hasStream c sid = false)
    (hhi : sid > (if streamIdIsOutbound c sid then c.highestOut else c.highestIn)) :
    wp (acknowledgeReceivedData size sid) (fun _ c' => c' = c) (fun _ c' => c' = c) c := by
  unfold acknowledgeReceivedData
  wps
  rw [wp_getStreamById_lookup, hno, if_neg Bool.false_ne_true, lookupExc_new hhi]
  refine ite_intro (fun _ => trivial) fun _ => ite_intro (fun _ => trivial) fun _ => ?_
  -- NoSuchStreamError is not a StreamClosedError, so the `except` clause lets it through
  exact (if_neg (show ¬ false = true from Bool.false_ne_true)).mpr rfl

/-- non-vacuity: the boundary, evaluated -/
example : ({ max_window_size := 65535, current_window_size := 100, bytes_processed := 0 } : WindowManager).window_consumed 100
      = (.ok none, { max_window_size := 65535, current_window_size := 0, bytes_processed := 0 }) ∧
    (({ max_window_size := 65535, current_window_size := 100, bytes_processed := 0 } : WindowManager).window_consumed 101).1
      = .error (.h2 .FlowControlError) := by
  constructor <;> rfl

/-! ### the ledger: what each window-related operation does to the connection-level windows and to what is written -/

/-- total flow-controlled length of the DATA frames in a list -/
def dataFcl : List Frame → Int
  | [] => 0
  | .data _ p _ pad :: fs => (p.length : Int) + (match pad with | some q => q + 1 | none => 0) + dataFcl fs
  | _ :: fs => dataFcl fs
/-- total of the connection-level WINDOW_UPDATE increments in a list -/
def wu0 : List Frame → Int
  | [] => 0
  | .windowUpdate sid n :: fs => (if sid = 0 then n else 0) + wu0 fs
  | _ :: fs => wu0 fs

theorem wu0_append (a b : List Frame) : wu0 (a ++ b) = wu0 a + wu0 b := by
  induction a with
  | nil => simp [wu0]
  | cons f t ih => cases f <;> simp [wu0, ih] <;> omega
theorem dataFcl_append (a b : List Frame) : dataFcl (a ++ b) = dataFcl a + dataFcl b := by
  induction a with
  | nil => simp [dataFcl]
  | cons f t ih => cases f <;> simp [dataFcl, ih] <;> omega

/-- what the reply to DATA on a closed stream contributes to the ledger: the increment `process_bytes` returned -/
theorem closedDataReply_ledger (incr : Option Int) (e : Exc) :
    wu0 (closedDataReply incr e).1 = incr.getD 0 ∧ dataFcl (closedDataReply incr e).1 = 0 := by
  cases e <;> cases incr with
  | none => simp [closedDataReply, wu0, dataFcl]
  | some n => by_cases hn : n = 0 <;> simp [closedDataReply, hn, wu0, dataFcl]

/-- no block of a frame handler writes the outbound window or the history of sent frames -/
theorem prims_outWin_sent (v : Int × List Frame) : RecvPrims (fun c => (c.outWin, c.sent) = v) := {}

/-- the inbound half of the ledger, the one for which the handler's path matters: the frame is charged; a live stream
    hands back no frames (`sgood_receiveData`); a StreamClosedError, from the stream or from the lookup, has
    `process_bytes` credit the window with exactly the increment whose WINDOW_UPDATE goes out in front of the reset -/
theorem recv_data_inbound (c : Conn) (sid : Int) (payload : Bytes) (es : Bool) (fcl : Int) :
    wp (receiveDataFrame sid payload es fcl)
      (fun fe c' => c'.inWM.current_window_size = c.inWM.current_window_size - fcl + wu0 fe.1 ∧ dataFcl fe.1 = 0)
      (fun _ _ => True) c := by
  cases ht : connTable c.cstate .RECV_DATA with
  | none => unfold receiveDataFrame; rw [wp_bind, wp_connInput_err _ _ ht]; trivial
  | some t =>
    rw [wp_receiveDataFrame_eq c sid payload es fcl t ht, WindowManager.window_consumed_eq]
    split
    · trivial
    · rename_i heq
      obtain ⟨-, rfl⟩ := Prod.mk.inj heq
      have closed : ∀ e c2, c2.inWM.current_window_size = c.inWM.current_window_size - fcl →
          dataOnClosed fcl
            (fun fe c' => c'.inWM.current_window_size = c.inWM.current_window_size - fcl + wu0 fe.1 ∧ dataFcl fe.1 = 0)
            (fun _ _ => True) e c2 := by
        intro e c2 h2
        unfold dataOnClosed
        split
        · obtain ⟨v2, w2, hp, _, hcur, _⟩ := WindowManager.process_bytes_spec c2.inWM fcl
          rw [wp_handleDataOnClosedStream, hp]
          refine ⟨?_, (closedDataReply_ledger v2 e).2⟩
          show w2.current_window_size = _
          rw [hcur, h2, (closedDataReply_ledger v2 e).1]
        · trivial
      cases c.streams.lookup sid with
      | some st =>
        refine wp_mono (sgood_receiveData payload es fcl st) (fun fe st' h => ?_) (fun e st' _ => closed e _ rfl)
        rw [show fe.1 = [] from h.2.noFrames]
        exact ⟨(Int.add_zero _).symm, rfl⟩
      | none => exact closed _ _ rfl

/-- **what a received DATA frame does to the ledger**, any state, any frame: the handler writes nothing itself and
    leaves the outbound window alone; if it returns, the connection's inbound window went down by the frame's
    flow-controlled length and up by exactly the connection-level WINDOW_UPDATE increments among the frames it hands back
    (none on a live stream; on a closed stream the bytes are handed straight back, `process_bytes`), and it hands back
    no DATA -/
theorem C04_recv_data_ledger (c : Conn) (sid : Int) (payload : Bytes) (es : Bool) (fcl : Int) :
    wp (receiveDataFrame sid payload es fcl)
      (fun fe c' => c'.outWin = c.outWin ∧ c'.sent = c.sent ∧
          c'.inWM.current_window_size = c.inWM.current_window_size - fcl + wu0 fe.1 ∧ dataFcl fe.1 = 0)
      (fun _ c' => c'.outWin = c.outWin ∧ c'.sent = c.sent) c := by
  have keep := ((prims_outWin_sent (c.outWin, c.sent)).dataFrame sid payload es fcl
    (Keeps.onConnWM_of (fun _ _ h => h) _)).run c rfl
  refine wp_mono (wp_and keep (recv_data_inbound c sid payload es fcl)) (fun _ c' h => ?_) (fun _ c' h => ?_)
  · exact ⟨congrArg Prod.fst h.1, congrArg Prod.snd h.1, h.2⟩
  · exact ⟨congrArg Prod.fst h.1, congrArg Prod.snd h.1⟩

end H2.C04
