/-
  C19 — a closed connection stays quiet.

  `connTable` is regenerated from H2ConnectionStateMachine._transitions on every run; the API methods are the
  hand-written model (tied by correspondence).
-/
import H2.Proofs.Closed
import H2.Proofs.ClosedRecv
import H2.Proofs.Invariants
import H2.Proofs.History

namespace H2.C19
open H2 H2.Gen H2.Conn

/-- the calls of C19's refusal clause: those that would emit a frame other than GOAWAY on an open connection
    (`initiate_connection` and `initiate_upgrade_connection`, which belong before any traffic, are not among them) -/
def frameCall : Op → Bool
  | .sendHeaders .. | .sendData .. | .endStream .. | .incrementWindow .. | .pushStream .. | .ping ..
  | .resetStream .. | .updateSettings .. | .altsvc .. | .prioritize .. => true
  | _ => false

/-- the generated connection table: CLOSED admits exactly the two GOAWAY inputs and is absorbing -/
theorem C19_table_closed (i : ConnectionInputs) :
    connTable .CLOSED i = (if i = .SEND_GOAWAY ∨ i = .RECV_GOAWAY then some .CLOSED else none) := by
  cases i <;> decide

/-- every state reaches CLOSED by sending or receiving GOAWAY -/
theorem C19_routes_to_closed (s : ConnectionState) :
    connTable s .SEND_GOAWAY = some .CLOSED ∧ connTable s .RECV_GOAWAY = some .CLOSED :=
  ⟨conn_goaway_closes s, conn_recvGoaway_closes s⟩

theorem frameCall_raises {P : Conn → Prop} (hP : ClosedPrims P) (c : Conn) (op : Op) (hop : frameCall op = true)
    (h : ClosedAnd P c) : (step c op).2.res.isOk = false ∧ ClosedAnd P (step c op).1 := by
  cases op <;> simp only [frameCall] at hop <;> simp only [step] <;> try contradiction
  · exact (hP.sendHeaders _ _ _ _ _ _).runU c h
  · exact (hP.sendData _ _ _ _).runU c h
  · exact (hP.endStream _).runU c h
  · exact (hP.incrementWindow _ _).runU c h
  · exact (hP.pushStream _ _ _).runU c h
  · exact (hP.ping _).runU c h
  · exact (hP.resetStream _ _).runU c h
  · exact (hP.updateSettings _).runU c h
  · exact (hP.altsvc _ _ _).runU c h
  · exact (hP.prioritize _ _ _ _).runU c h

/-- **C19, refusal**: on a closed connection every frame-producing call raises, appends nothing and the
    connection stays closed. -/
theorem C19_refuse (c : Conn) (op : Op) (hc : c.cstate = .CLOSED) (hop : frameCall op = true) :
    (step c op).2.res.isOk = false ∧ (step c op).1.out = c.out ∧ (step c op).1.cstate = .CLOSED :=
  have h := frameCall_raises (P := fun c' => c'.out = c.out) {} c op hop ⟨hc, rfl⟩
  ⟨h.1, h.2.2, h.2.1⟩

/-- **C19, acknowledge_received_data** on a closed connection changes nothing at all (so emits nothing). -/
theorem C19_ack_quiet (c : Conn) (size sid : Int) (hc : c.cstate = .CLOSED) :
    (step c (.ackData size sid)).1 = c := by
  simp only [step]
  exact keeps_of_runU (P := (· = c)) _ c (ackData_closed size sid c hc)

/-- **C19, discard**: receiving GOAWAY drops whatever was not yet handed to the application. -/
theorem C19_goaway_discards (c : Conn) (last code : Int) (extra : Bytes) (fe : FE) (c' : Conn)
    (h : receiveGoawayFrame last code extra c = (.ok fe, c')) : c'.out = [] ∧ c'.cstate = .CLOSED ∧ fe.1 = [] := by
  simp only [receiveGoawayFrame, bind, M.bind, connInput, clearOutboundDataBuffer, modifyS, pure, M.pure,
    conn_recvGoaway_closes] at h
  cases h
  exact ⟨rfl, rfl, rfl⟩

/-- **CLOSED is for ever**: whatever is called and whatever is received afterwards -/
theorem C19_closed_forever (c : Conn) (op : Op) (hc : c.cstate = .CLOSED) : (step c op).1.cstate = .CLOSED :=
  prims_ST.step_keeps (fun _ _ h => h) (fun _ _ h => h) c op hc

/-- **`receive_data` on a closed connection**: whatever the bytes — frames for live, reset, forgotten or never-used
    streams, naked CONTINUATION frames, garbage — at most one frame is written, and it is a GOAWAY -/
theorem C19_recv_quiet (c : Conn) (d : Bytes) (hc : c.cstate = .CLOSED) :
    (step c (.recv d)).1.sent = c.sent ∨ ∃ last code, (step c (.recv d)).1.sent = c.sent ++ [Frame.goaway last code []] := by
  rw [step_recv]
  exact (receiveData_closed d c hc).2

/-- frames written from one state to a later one: only GOAWAY frames -/
def OnlyGoaway (s0 s1 : List Frame) : Prop := ∃ gs, s1 = s0 ++ gs ∧ ∀ f ∈ gs, ∃ l k x, f = Frame.goaway l k x

theorem OnlyGoaway.refl (s : List Frame) : OnlyGoaway s s := ⟨[], by simp, by intro f hf; cases hf⟩
theorem OnlyGoaway.trans {a b c : List Frame} (h1 : OnlyGoaway a b) (h2 : OnlyGoaway b c) : OnlyGoaway a c := by
  obtain ⟨g1, rfl, p1⟩ := h1
  obtain ⟨g2, rfl, p2⟩ := h2
  exact ⟨g1 ++ g2, List.append_assoc .., List.forall_mem_append.mpr ⟨p1, p2⟩⟩

/-- `close_connection`, in any state, writes at most its GOAWAY -/
theorem closeConnection_quiet (code : Int) (extra : Option Bytes) (last : Option Int) (c : Conn) :
    wp (closeConnection code extra last) (fun _ c' => OnlyGoaway c.sent c'.sent)
      (fun _ c' => OnlyGoaway c.sent c'.sent) c := by
  unfold closeConnection
  wps
  have quiet : ∀ {p : Prop}, p → OnlyGoaway c.sent c.sent := fun _ => .refl _
  refine ite_intro quiet fun _ => ite_intro quiet fun _ => ite_intro quiet fun _ => ?_
  rw [wp_connInput_ok _ _ _ (C19_routes_to_closed _).1]
  wps
  have hg : OnlyGoaway c.sent (c.sent ++ [Frame.goaway (last.getD c.highestIn) code (extra.getD [])]) :=
    ⟨_, rfl, fun f hf => ⟨_, _, _, List.mem_singleton.mp hf⟩⟩
  exact wp_prepare_rule _ _ (fun _ _ _ => hg) (fun _ => OnlyGoaway.refl _) fun _ _ _ => hg

/-- one step from a closed state writes only GOAWAY frames -/
theorem C19_step_quiet (c : Conn) (op : Op) (hc : c.cstate = .CLOSED) : OnlyGoaway c.sent (step c op).1.sent := by
  have same : ∀ {s : List Frame}, s = c.sent → OnlyGoaway c.sent s := fun h => h ▸ OnlyGoaway.refl _
  have hP := closed_sent c.sent
  cases op with
  | sendHeaders | sendData | endStream | incrementWindow | pushStream | ping | resetStream | updateSettings | altsvc
  | prioritize => exact same (frameCall_raises hP c _ rfl ⟨hc, rfl⟩).2.2
  | recv d =>
    rcases C19_recv_quiet c d hc with h | ⟨l, k, h⟩
    · exact same h
    · exact ⟨_, h, fun f hf => ⟨l, k, [], List.mem_singleton.mp hf⟩⟩
  | ackData size sid => exact same (by rw [C19_ack_quiet c size sid hc])
  | initiateConnection => exact same (hP.initiate.runU c ⟨hc, rfl⟩).2.2
  | initiateUpgrade hdr => exact same (keeps_of_run _ _ c ((hP.upgrade hdr).keeps.run c ⟨hc, rfl⟩)).2
  | closeConnection code extra last =>
    exact keeps_of_run (P := fun c' => OnlyGoaway c.sent c'.sent) _ _ c (closeConnection_quiet code extra last c)
  | dataToSend n => exact same (by cases n <;> rfl)
  | clearOut => exact same rfl
  | query q =>
    refine same ?_
    cases q with
    | localWindow sid => exact keeps_of_run (P := (·.sent = c.sent)) _ _ c ((Keeps.localWindow sid).run c rfl)
    | remoteWindow sid => exact keeps_of_run (P := (·.sent = c.sent)) _ _ c ((Keeps.remoteWindow sid).run c rfl)
    | nextStreamId => exact keeps_of_run (P := (·.sent = c.sent)) _ _ c (Keeps.nextStreamId.run c rfl)
    | openOut => exact keeps_of_run _ _ c ((Keeps.openOut_of (prims_sent _).openStreams).run c rfl)
    | openIn => exact keeps_of_run _ _ c ((Keeps.openIn_of (prims_sent _).openStreams).run c rfl)
    | inboundWindow => rfl

/-- **quiet for ever**: from a closed connection, whatever sequence of calls and deliveries follows, every frame that
    is written is a GOAWAY -/
theorem C19_quiet_for_ever (c : Conn) (ops : List Op) (hc : c.cstate = .CLOSED) :
    (run c ops).1.cstate = .CLOSED ∧ OnlyGoaway c.sent (run c ops).1.sent := by
  refine every_run (P := fun c' => c'.cstate = .CLOSED ∧ OnlyGoaway c.sent c'.sent) (fun c1 op h => ?_) c ops
    ⟨hc, OnlyGoaway.refl _⟩
  exact ⟨C19_closed_forever c1 op h.1, h.2.trans (C19_step_quiet c1 op h.1)⟩

/-- non-vacuity: a closed connection with pending output exists and `ping` on it is refused -/
example : let c := { Conn.init { client := true } with cstate := .CLOSED, out := [1, 2, 3] }
    (step c (.ping [0,0,0,0,0,0,0,0])).2.res.isOk = false ∧ (step c (.ping [0,0,0,0,0,0,0,0])).1.out = [1, 2, 3] := by
  intro c
  have h := C19_refuse c (.ping [0,0,0,0,0,0,0,0]) rfl rfl
  exact ⟨h.1, h.2.1⟩

end H2.C19
