/-
  The stream state machine seen from both ends (decided over the table regenerated from stream.py).

  `mirror` turns one endpoint's view of a stream into the view the other endpoint has when nothing is in flight
  (half-closed local ↔ remote, reserved local ↔ remote, sent ↔ received flags, client ↔ server).  The theorems say
  that the two copies of the machine fit together: what one side's machine lets the application send, the other
  side's machine accepts — synchronously (`fsm_sync`), and when one frame from each side crosses in flight
  (`fsm_cross`) — with exactly one exception, which is the known finding D17b (a server's DATA / END_STREAM before
  its response headers).  A closed stream sends nothing and swallows whatever arrives, except a PUSH_PROMISE on a
  stream that was not closed by our own reset (`closed_quiet`, `reset_swallows`).

  These are the one-frame-each-way statements.  The general one — any number of frames of all kinds in flight in both
  directions, any interleaving — is `full_never_refused` in Proofs/PairReachMain (via PairReach).
-/
import H2.Proofs.Shapes
namespace H2
open H2.Gen

namespace PairFsm

def mirState : StreamState → StreamState
  | .HALF_CLOSED_LOCAL => .HALF_CLOSED_REMOTE
  | .HALF_CLOSED_REMOTE => .HALF_CLOSED_LOCAL
  | .RESERVED_LOCAL => .RESERVED_REMOTE
  | .RESERVED_REMOTE => .RESERVED_LOCAL
  | s => s

def mirClosedBy : StreamClosedBy → StreamClosedBy
  | .SEND_END_STREAM => .RECV_END_STREAM
  | .RECV_END_STREAM => .SEND_END_STREAM
  | .SEND_RST_STREAM => .RECV_RST_STREAM
  | .RECV_RST_STREAM => .SEND_RST_STREAM

/-- the other endpoint's view of the same stream when nothing is in flight -/
def mirror (s : Shape) : Shape :=
  { state := mirState s.state, client := s.client.map (!·), headersSent := s.headersReceived,
    trailersSent := s.trailersReceived, headersReceived := s.headersSent, trailersReceived := s.trailersSent,
    closedBy := s.closedBy.map mirClosedBy }

/-- the input the peer's machine gets when this side's machine took a SEND input -/
def recvOf : StreamInputs → Option StreamInputs
  | .SEND_HEADERS => some .RECV_HEADERS
  | .SEND_PUSH_PROMISE => some .RECV_PUSH_PROMISE
  | .SEND_RST_STREAM => some .RECV_RST_STREAM
  | .SEND_DATA => some .RECV_DATA
  | .SEND_WINDOW_UPDATE => some .RECV_WINDOW_UPDATE
  | .SEND_END_STREAM => some .RECV_END_STREAM
  | .SEND_INFORMATIONAL_HEADERS => some .RECV_INFORMATIONAL_HEADERS
  | .SEND_ALTERNATIVE_SERVICE => some .RECV_ALTERNATIVE_SERVICE
  | _ => none

def isOk : ProcRes → Bool
  | .ok _ => true
  | _ => false

/-- not a connection error: accepted, or the "stream closed" signal that `_receive_frame` answers with RST_STREAM -/
def graceful : ProcRes → Bool
  | .proto => false
  | _ => true

/-- how a frame must be received for C01: accepted — or, on a stream that is already closed here (frames racing a
    reset or an END_STREAM), dealt with quietly.  A stream error on a live stream (the library resets the stream
    because the frame does not fit its state) is NOT fine: the sender's successful send would be rejected -/
def fine (s : Shape) (j : StreamInputs) : Bool :=
  isOk (stepShape s j).1 || (s.state == .CLOSED && graceful (stepShape s j).1)

/-- a send the application may make on a stream that exists: its own machine accepts it, and it is not the known
    finding D17b (the responder's DATA / END_STREAM before its response headers) -/
def maySend (s : Shape) (i : StreamInputs) : Bool :=
  (recvOf i).isSome && isOk (stepShape s i).1 && s.state != .IDLE &&
  !((i == .SEND_DATA || i == .SEND_END_STREAM) && s.client == some false && !s.headersSent)

def sameOrClosed (a b : Shape) : Bool := (a.state == .CLOSED && b.state == .CLOSED) || a == b

def syncOk (s : Shape) (i : StreamInputs) : Bool :=
  !Good s || !maySend s i ||
  (match recvOf i with
   | none => true
   | some j =>
     let (r, t') := stepShape (mirror s) j
     isOk r && t' == mirror (stepShape s i).2)

/-- **what one side may send, the other side accepts, and the two views stay mirror images** (nothing else in
    flight) -/
theorem fsm_sync : ∀ s i, syncOk s i = true :=
  forall_good_shape_input (fun s i hg => by simp [syncOk, hg]) (by decide +kernel)

/-- the exclusion in `maySend` is needed, and is exactly D17b: a server's DATA before its response headers is accepted
    by its own machine and refused by the client's -/
theorem fsm_sync_D17b_witness :
    let s : Shape := { state := .OPEN, client := some false, headersReceived := true }
    isOk (stepShape s .SEND_DATA).1 = true ∧ graceful (stepShape (mirror s) .RECV_DATA).1 = false := by decide

/-- opening a stream: the first HEADERS / PUSH_PROMISE on an idle stream is accepted by the other side's idle stream
    and the views are mirror images afterwards -/
theorem fsm_open :
    (let s : Shape := {}
     isOk (stepShape s .SEND_HEADERS).1 = true ∧ isOk (stepShape s .RECV_HEADERS).1 = true ∧
     (stepShape s .RECV_HEADERS).2 = mirror (stepShape s .SEND_HEADERS).2 ∧
     isOk (stepShape s .SEND_PUSH_PROMISE).1 = true ∧ isOk (stepShape s .RECV_PUSH_PROMISE).1 = true ∧
     (stepShape s .RECV_PUSH_PROMISE).2 = mirror (stepShape s .SEND_PUSH_PROMISE).2) := by decide

def crossOk (s : Shape) (i : StreamInputs) : Bool :=
  !Good s || !maySend s i ||
  StreamInputs.all.all fun k =>
    !maySend (mirror s) k ||
    (match recvOf i, recvOf k with
     | some ri, some rk =>
       let s1 := (stepShape s i).2            -- this side has sent i
       let t1 := (stepShape (mirror s) k).2   -- the other side has sent k
       let (ra, s2) := stepShape s1 rk        -- this side receives k
       let (rb, t2) := stepShape t1 ri        -- the other side receives i
       fine s1 rk && fine t1 ri && (!(isOk ra && isOk rb) || sameOrClosed t2 (mirror s2))
     | _, _ => true)

/-- **frames crossing in flight**: from mirror-image views, each side sends something its machine allows; then each
    receives the other's frame.  Both receipts are fine (accepted, or dealt with quietly by a stream this side has
    closed meanwhile), and if both are accepted the views are mirror images again (or both closed) -/
theorem fsm_cross : ∀ s i, crossOk s i = true :=
  forall_good_shape_input (fun s i hg => by simp [crossOk, hg]) (by decide +kernel)

def closedQuiet (s : Shape) (i : StreamInputs) : Bool :=
  !Good s || s.state != .CLOSED ||
  (-- nothing may be sent on it any more
   !maySend s i &&
   -- whatever arrives is dealt with, except a PUSH_PROMISE on a stream that was not closed by our own reset
   (match recvOf i with
    | none => true
    | some j => graceful (stepShape s j).1 || (j == .RECV_PUSH_PROMISE && s.closedBy != some .SEND_RST_STREAM)) &&
   -- and it stays closed
   (stepShape s i).2.state == .CLOSED)

theorem closed_quiet : ∀ s i, closedQuiet s i = true :=
  forall_good_shape_input (fun s i hg => by simp [closedQuiet, hg]) (by decide +kernel)

/-- on a stream we reset ourselves every frame the peer may still send is dealt with (the statement C20 needs,
    restated here for the pair) -/
def resetSwallows (s : Shape) (i : StreamInputs) : Bool :=
  !Good s || s.state != .CLOSED || s.closedBy != some .SEND_RST_STREAM ||
  (match recvOf i with
   | none => true
   | some j => graceful (stepShape s j).1 && (stepShape s j).2 == s)

theorem reset_swallows : ∀ s i, resetSwallows s i = true :=
  forall_good_shape_input (fun s i hg => by simp [resetSwallows, hg]) (by decide +kernel)

/-- non-vacuity: an open request stream, a client sending DATA while the server sends its response headers -/
example :
    let s : Shape := { state := .OPEN, client := some true, headersSent := true }
    Good s = true ∧ maySend s .SEND_DATA = true ∧ maySend (mirror s) .SEND_HEADERS = true := by decide

end PairFsm
end H2
