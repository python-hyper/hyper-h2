/-
  The connection invariant of the receive path.  `WFb`: both settings objects are well-formed, the outbound frame
  limit is at least the protocol minimum, the HPACK decoder answers as `DecOk` says; `WF` adds that no stream in the
  table of an unclosed connection is IDLE.  Inside a frame handler, after its input to the connection state machine,
  the connection is `Live` (`WF`, and not closed); between `_begin_new_stream` and the stream method that follows it
  is `Fresh sid` (only the new stream may be IDLE).  `CE` is what a handler promises when it raises.
-/
import H2.Proofs.SettingsOk
namespace H2
open H2.Gen H2.Conn

/-- what the HPACK decoder may hand back (trusted base: hpack's `Decoder.decode(raw=True)` returns bytes pairs or
    raises HPACKError / OversizedHeaderListError / IndexError / TypeError / UnicodeDecodeError) -/
def DecOk (hp : Hp) : Prop :=
  ∀ r ∈ hp.decOracle, match r with
    | .ok hs => AllBytes hs
    | .py _ => False
    | _ => True

structure WFb (c : Conn) : Prop where
  ls : SettingsOk c.localSettings
  rs : SettingsOk c.remoteSettings
  mof : 16384 ≤ c.maxOutFrame
  dec : DecOk c.hp
  /-- the local settings' values fit a SETTINGS frame -/
  ls32 : LS32 c.localSettings

/-- `WFb` reads four fields of the connection; for a record update that leaves them alone the side goals close by
    `rfl`.  Where one of them changes, `{ h with rs := … }` replaces the fact about it. -/
theorem WFb.congr {c c' : Conn} (h : WFb c) (hls : c'.localSettings = c.localSettings := by rfl)
    (hrs : c'.remoteSettings = c.remoteSettings := by rfl) (hmo : c'.maxOutFrame = c.maxOutFrame := by rfl)
    (hhp : c'.hp = c.hp := by rfl) : WFb c' :=
  ⟨hls ▸ h.ls, hrs ▸ h.rs, hmo ▸ h.mof, hhp ▸ h.dec, hls ▸ h.ls32⟩

def StreamsNotIdle (ss : List (Int × Stream)) : Prop := ∀ e ∈ ss, e.2.sm.state ≠ .IDLE

def WF (c : Conn) : Prop := WFb c ∧ (c.cstate ≠ .CLOSED → StreamsNotIdle c.streams)

theorem WF.wfb {c : Conn} (h : WF c) : WFb c := h.1

theorem WF.congr {c c' : Conn} (h : WF c) (hls : c'.localSettings = c.localSettings := by rfl)
    (hrs : c'.remoteSettings = c.remoteSettings := by rfl) (hmo : c'.maxOutFrame = c.maxOutFrame := by rfl)
    (hhp : c'.hp = c.hp := by rfl) (hcs : c'.cstate = c.cstate := by rfl) (hss : c'.streams = c.streams := by rfl) :
    WF c' :=
  ⟨h.1.congr hls hrs hmo hhp, fun hc => hss ▸ h.2 (hcs ▸ hc)⟩

theorem wf_of_closed {c : Conn} (h : WFb c) (hc : c.cstate = .CLOSED) : WF c := ⟨h, fun hn => absurd hc hn⟩

/-- inside a frame handler, after the connection state machine accepted the frame -/
structure Live (c : Conn) : Prop extends WFb c where
  notClosed : c.cstate ≠ .CLOSED
  notIdle : StreamsNotIdle c.streams

theorem Live.wf {c : Conn} (h : Live c) : WF c := ⟨h.toWFb, fun _ => h.notIdle⟩

theorem Live.of_wf {c : Conn} (h : WF c) (hc : c.cstate ≠ .CLOSED) : Live c := ⟨h.1, hc, h.2 hc⟩

/-- what a frame handler promises when it raises `e`: a protocol error, with the base facts; the whole invariant only
    if `e` is one that an `except` clause of the receive path may swallow (`isCaught`), after which the connection goes
    on (any other ends it: `_terminate_connection` closes the connection, and a closed connection asks nothing of its
    streams) -/
structure CE (e : Exc) (c' : Conn) : Prop where
  good : GoodExc e
  wfb : WFb c'
  wf : isCaught e = true → WF c'

theorem CE_plain {e : Exc} {c' : Conn} (h : Plain e) (hw : WFb c') : CE e c' :=
  ⟨h.1, hw, fun hc => by rw [h.2] at hc; contradiction⟩
theorem CE_wf {e : Exc} {c' : Conn} (h : GoodExc e) (hw : WF c') : CE e c' := ⟨h, hw.wfb, fun _ => hw⟩

theorem SmallFrame.fits {f : Frame} (h : SmallFrame f) {mo : Int} (hm : 16384 ≤ mo) : f.Fits mo := by
  match f, h with
  | .settings true [], _ =>
    obtain ⟨b, hb, hl⟩ := settings_ack_serialize
    exact .of_ser ⟨⟨b, hb⟩, hl⟩ (by omega)
  | .ping ack p, h => exact .of_ser (ping_serialize ack p h) (by omega)
  | .rstStream sid code, h =>
    obtain ⟨b, hb, hl⟩ := rst_serialize sid code h
    exact .of_ser ⟨⟨b, hb⟩, hl⟩ (by omega)
  | .windowUpdate sid incr, _ => exact .of_ser (wu_serialize sid incr) (by omega)

theorem wp_prepareForSending {Q : Unit → Conn → Prop} {E : Exc → Conn → Prop} (fs : List Frame) (c : Conn)
    (hw : 16384 ≤ c.maxOutFrame) (hf : FramesOk fs) (hq : ∀ o, Q () { c with out := o, sent := c.sent ++ fs }) :
    wp (prepareForSending fs) Q E c :=
  wp_prepare_fits fs c (fun f hf' => (hf f hf').fits hw) hq

theorem wp_connInput_live {Q : Unit → Conn → Prop} {E : Exc → Conn → Prop} (i : ConnectionInputs) (c : Conn)
    (hwf : WF c) (hi : notGoaway i)
    (hq : ∀ t, Live { c with cstate := t } → Q () { c with cstate := t })
    (he : WF { c with cstate := .CLOSED } → E pErr { c with cstate := .CLOSED }) : wp (connInput i) Q E c := by
  cases h : connTable c.cstate i with
  | none =>
    rw [wp_connInput_err _ _ h]
    exact he (wf_of_closed hwf.wfb.congr rfl)
  | some t =>
    rw [wp_connInput_ok _ _ _ h]
    -- a closed connection refuses the input, and only GOAWAY closes one
    have hcs : c.cstate ≠ .CLOSED := by
      intro hc; rw [hc, closed_refuses i hi] at h; cases h
    exact hq t ⟨hwf.wfb.congr, connTable_ne_closed h hi, hwf.2 hcs⟩

theorem wp_connInput_CE {Q : Unit → Conn → Prop} (i : ConnectionInputs) (c : Conn) (hwf : WF c) (hi : notGoaway i)
    (hq : ∀ t, Live { c with cstate := t } → Q () { c with cstate := t }) : wp (connInput i) Q CE c :=
  wp_connInput_live i c hwf hi hq fun h => CE_plain plain_pErr h.1

theorem notIdle_lookup {ss : List (Int × Stream)} {sid : Int} {st : Stream} (h : StreamsNotIdle ss)
    (hl : ss.lookup sid = some st) : st.sm.state ≠ .IDLE := h _ (lookup_mem _ _ _ hl)

def NotIdleExcept (sid : Int) (ss : List (Int × Stream)) : Prop := ∀ e ∈ ss, e.1 ≠ sid → e.2.sm.state ≠ .IDLE

theorem notIdleExcept_of (sid : Int) {ss : List (Int × Stream)} (h : StreamsNotIdle ss) : NotIdleExcept sid ss :=
  fun e he _ => h e he

/-- the connection between a frame handler's `_begin_new_stream` and the stream method that follows it -/
structure Fresh (sid : Int) (c : Conn) : Prop extends WFb c where
  notClosed : c.cstate ≠ .CLOSED
  others : NotIdleExcept sid c.streams
  has : hasStream c sid = true

theorem fresh_of_live {c : Conn} {sid : Int} (hl : Live c) (hex : hasStream c sid = true) : Fresh sid c :=
  ⟨hl.toWFb, hl.notClosed, notIdleExcept_of sid hl.notIdle, hex⟩

theorem notIdle_replace {ss : List (Int × Stream)} {sid : Int} {st : Stream} (h : NotIdleExcept sid ss)
    (hs : st.sm.state ≠ .IDLE) : StreamsNotIdle (ss.map fun e => if e.1 == sid then (sid, st) else e) := by
  refine List.forall_mem_map.mpr fun e he => ?_
  split
  · exact hs
  · rename_i hne
    exact h e he (by simpa using hne)

theorem notIdle_setStream {c : Conn} {sid : Int} {st : Stream} (h : StreamsNotIdle c.streams)
    (hs : st.sm.state ≠ .IDLE) : StreamsNotIdle (setStream c sid st).streams :=
  notIdle_replace (notIdleExcept_of sid h) hs

theorem wfb_setStream {c : Conn} {sid : Int} {st : Stream} (h : WFb c) : WFb (setStream c sid st) :=
  h.congr

/-- run a stream method on stream `sid` of the table, whatever the connection state: all it has to be is `SGood` from
    the stream found there, for then that stream, the only one that may have been IDLE, has left IDLE when the method
    returns, and also when it raises something that will be swallowed -/
theorem wp_withStream_wf {α} {Q : α → Conn → Prop} {E : Exc → Conn → Prop} (R : α → Prop) (sid : Int) (m : M Stream α)
    (c : Conn) (hw : WFb c) (hs : c.cstate ≠ .CLOSED → NotIdleExcept sid c.streams) (hex : hasStream c sid = true)
    (hm : ∀ st, c.streams.lookup sid = some st → SGood R m st)
    (hq : ∀ a st', R a → WF (setStream c sid st') → Q a (setStream c sid st'))
    (he : ∀ e st', CE e (setStream c sid st') → E e (setStream c sid st')) :
    wp (withStream sid m) Q E c := by
  obtain ⟨st, hlk⟩ := lookup_of_hasStream c sid hex
  rw [wp_withStream, hlk]
  have hwf : ∀ st' : Stream, st'.sm.state ≠ .IDLE → WF (setStream c sid st') := fun st' hni =>
    ⟨wfb_setStream hw, fun hc => notIdle_replace (hs hc) hni⟩
  refine wp_mono (hm st hlk) ?_ ?_
  · intro a st' h
    exact hq a st' h.2 (hwf st' h.1)
  · intro e st' h
    exact he _ _ ⟨h.1, wfb_setStream hw, fun hc => hwf st' (h.2 hc)⟩

theorem wp_withStream_fresh {α} {Q : α → Conn → Prop} {E : Exc → Conn → Prop} (R : α → Prop) (sid : Int)
    (m : M Stream α) (c : Conn) (hf : Fresh sid c) (hm : ∀ st, c.streams.lookup sid = some st → SGood R m st)
    (hq : ∀ a st', R a → Live (setStream c sid st') → Q a (setStream c sid st'))
    (he : ∀ e st', CE e (setStream c sid st') → E e (setStream c sid st')) :
    wp (withStream sid m) Q E c :=
  wp_withStream_wf R sid m c hf.toWFb (fun _ => hf.others) hf.has hm
    (fun a st' hr hwf => hq a st' hr (.of_wf hwf hf.notClosed)) he

theorem wp_withStream_live {α} {Q : α → Conn → Prop} {E : Exc → Conn → Prop} (R : α → Prop) (sid : Int) (m : M Stream α)
    (c : Conn) (hl : Live c) (hex : hasStream c sid = true) (hm : ∀ st, st.sm.state ≠ .IDLE → SGood R m st)
    (hq : ∀ a st', R a → Live (setStream c sid st') → Q a (setStream c sid st'))
    (he : ∀ e st', CE e (setStream c sid st') → E e (setStream c sid st')) :
    wp (withStream sid m) Q E c :=
  wp_withStream_fresh R sid m c (fresh_of_live hl hex) (fun st hlk => hm st (notIdle_lookup hl.notIdle hlk)) hq he

end H2
