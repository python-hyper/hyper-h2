/-
  `_build_headers_frames`: splitting an encoded header block into HEADERS / PUSH_PROMISE + CONTINUATION frames.
-/
import H2.Model.Stream
namespace H2
open H2.Gen

theorem chunks_flatten (n : Nat) (hn : 0 < n) (fuel : Nat) (b : Bytes) (hf : b.length < fuel) :
    (chunks n fuel b).flatten = b := by
  induction fuel generalizing b with
  | zero => omega
  | succ fuel ih =>
    cases b with
    | nil => rfl
    | cons x t =>
      simp only [chunks, List.flatten_cons]
      rw [ih]
      · exact List.take_append_drop n (x :: t)
      · simp only [List.length_drop, List.length_cons] at hf ⊢; omega

theorem chunks_sizes (n : Nat) (hn : 0 < n) (fuel : Nat) (b : Bytes) :
    ∀ x ∈ chunks n fuel b, x.length ≤ n ∧ x ≠ [] := by
  induction fuel generalizing b with
  | zero => intro x hx; simp [chunks] at hx
  | succ fuel ih =>
    cases b with
    | nil => intro x hx; simp [chunks] at hx
    | cons y t =>
      intro x hx
      simp only [chunks, List.mem_cons] at hx
      rcases hx with hx | hx
      · subst hx
        refine ⟨by simp only [List.length_take]; omega, ?_⟩
        intro h
        have := congrArg List.length h
        simp only [List.length_take, List.length_cons, List.length_nil] at this
        omega
      · exact ih _ x hx

/-- the header-block fragment a frame carries -/
def Frame.fragment? : Frame → Option Bytes
  | .headers _ b _ _ _ _ => some b
  | .pushPromise _ _ b _ _ => some b
  | .continuation _ b _ => some b
  | _ => none

/-- END_HEADERS of a header-carrying frame -/
def Frame.endHeaders? : Frame → Option Bool
  | .headers _ _ _ eh _ _ => some eh
  | .pushPromise _ _ _ eh _ => some eh
  | .continuation _ _ eh => some eh
  | _ => none

/-- a well-formed header-block sequence: a first frame (HEADERS or PUSH_PROMISE), then CONTINUATION frames on the same
    stream, END_HEADERS on the last frame only -/
def ContiguousBlock (sid : Int) : List Frame → Prop
  | [] => False
  | f :: rest =>
    (match f with | .headers s .. => s = sid | .pushPromise s .. => s = sid | _ => False) ∧
    (∀ g ∈ rest, match g with | .continuation s _ _ => s = sid | _ => False) ∧
    (∀ g ∈ (f :: rest).dropLast, g.endHeaders? = some false) ∧
    ((f :: rest).getLast?.bind Frame.endHeaders? = some true)

/-- END_HEADERS goes on the first frame exactly when there is no other -/
theorem mkHeaderFrames_cons (first : Bytes → Bool → Frame) (sid : Int) (b : Bytes) (rest : List Bytes) :
    mkHeaderFrames first sid (b :: rest) =
      first b rest.isEmpty :: rest.zipIdx.map fun (blk, i) => Frame.continuation sid blk (i + 1 == rest.length) := by
  cases rest <;> rfl

theorem zipIdx_cont_fragments (sid : Int) (rest : List Bytes) (k m : Nat) :
    ((rest.zipIdx k).map fun (blk, i) => Frame.continuation sid blk (i + 1 == m)).filterMap Frame.fragment? = rest := by
  induction rest generalizing k with
  | nil => rfl
  | cons b t ih => simp only [List.zipIdx_cons, List.map_cons, List.filterMap_cons, Frame.fragment?, ih]

theorem mkHeaderFrames_fragments (first : Bytes → Bool → Frame) (sid : Int) (blocks : List Bytes)
    (hfirst : ∀ b eh, (first b eh).fragment? = some b) :
    (mkHeaderFrames first sid blocks).filterMap Frame.fragment? = blocks := by
  cases blocks with
  | nil => rfl
  | cons b rest => simp only [mkHeaderFrames_cons, List.filterMap_cons, hfirst, zipIdx_cont_fragments]

theorem mkHeaderFrames_length (first : Bytes → Bool → Frame) (sid : Int) (blocks : List Bytes) :
    (mkHeaderFrames first sid blocks).length = blocks.length := by
  cases blocks with
  | nil => rfl
  | cons b rest => simp only [mkHeaderFrames_cons, List.length_cons, List.length_map, List.length_zipIdx]

end H2
