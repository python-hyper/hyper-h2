/-
  One induction for "P holds in every reachable state": a predicate that every public call keeps (whether the call
  returns or raises), that `receive_data` keeps for every byte string, that the fresh connection satisfies and that
  does not look at the HPACK oracles holds in every state of `C29.Reachable`.  (The module sits above Props/C29, where
  `Reachable` and its invariant `Inv2` are: the property files that use it import it.)
-/
import H2.Props.C29
import H2.Proofs.Stable
namespace H2
open H2.Gen H2.Conn

structure CallsKeep (P : Conn → Prop) : Prop where
  initiate : ∀ c, P c → wp initiateConnection (fun _ c' => P c') (fun _ c' => P c') c
  upgrade : ∀ hdr c, P c → wp (initiateUpgradeConnection (fun items => do let _ ← receiveSettingsFrame false items; pure ()) hdr)
      (fun _ c' => P c') (fun _ c' => P c') c
  sendHeaders : ∀ sid hs es pw pd pe c, P c → wp (sendHeaders sid hs es pw pd pe) (fun _ c' => P c') (fun _ c' => P c') c
  pushStream : ∀ sid p hs c, P c → wp (pushStream sid p hs) (fun _ c' => P c') (fun _ c' => P c') c
  sendData : ∀ sid d es pad c, P c → wp (sendData sid d es pad) (fun _ c' => P c') (fun _ c' => P c') c
  endStream : ∀ sid c, P c → wp (endStream sid) (fun _ c' => P c') (fun _ c' => P c') c
  incrementWindow : ∀ i sid c, P c → wp (incrementFlowControlWindow i sid) (fun _ c' => P c') (fun _ c' => P c') c
  ping : ∀ d c, P c → wp (ping d) (fun _ c' => P c') (fun _ c' => P c') c
  resetStream : ∀ sid code c, P c → wp (resetStream sid code) (fun _ c' => P c') (fun _ c' => P c') c
  closeConnection : ∀ code extra last c, P c → wp (closeConnection code extra last) (fun _ c' => P c') (fun _ c' => P c') c
  updateSettings : ∀ items c, P c → wp (updateSettings items) (fun _ c' => P c') (fun _ c' => P c') c
  altsvc : ∀ f o sid c, P c → wp (advertiseAlternativeService f o sid) (fun _ c' => P c') (fun _ c' => P c') c
  prioritize : ∀ sid w d e c, P c → wp (prioritize sid w d e) (fun _ c' => P c') (fun _ c' => P c') c
  ackData : ∀ size sid c, P c → wp (acknowledgeReceivedData size sid) (fun _ c' => P c') (fun _ c' => P c') c
  dataToSend : ∀ n c, P c → wp (dataToSend n) (fun _ c' => P c') (fun _ c' => P c') c
  clearOut : ∀ c, P c → wp clearOutboundDataBuffer (fun _ c' => P c') (fun _ c' => P c') c
  localWindow : ∀ sid c, P c → wp (localFlowControlWindow sid) (fun _ c' => P c') (fun _ c' => P c') c
  remoteWindow : ∀ sid c, P c → wp (remoteFlowControlWindow sid) (fun _ c' => P c') (fun _ c' => P c') c
  nextStreamId : ∀ c, P c → wp getNextAvailableStreamId (fun _ c' => P c') (fun _ c' => P c') c
  openOut : ∀ c, P c → wp openOutboundStreams (fun _ c' => P c') (fun _ c' => P c') c
  openIn : ∀ c, P c → wp openInboundStreams (fun _ c' => P c') (fun _ c' => P c') c

variable {P : Conn → Prop} {F : (Stream → Prop) → Prop}

/-- **one operation keeps `P`**, for any predicate.  `hr` is about this `c` only, so that what is known of it (an
    invariant of the history so far) can be used for `receive_data`. -/
theorem step_keeps (hP : CallsKeep P) (c : Conn) (op : Op) (hr : ∀ d, P c → P (receiveData d c).2) (h : P c) :
    P (step c op).1 := by
  cases op
  case recv d => rw [step_recv]; exact hr d h
  case query q =>
    cases q with
    | localWindow sid => exact keeps_of_runI _ c (hP.localWindow sid c h)
    | remoteWindow sid => exact keeps_of_runI _ c (hP.remoteWindow sid c h)
    | nextStreamId => exact keeps_of_runI _ c (hP.nextStreamId c h)
    | openOut => exact keeps_of_runI _ c (hP.openOut c h)
    | openIn => exact keeps_of_runI _ c (hP.openIn c h)
    | inboundWindow => exact keeps_of_runI (do let c ← getS; pure c.inWM.current_window_size) c h
  case initiateUpgrade hdr => exact keeps_of_run _ _ c (hP.upgrade hdr c h)
  case dataToSend n => exact keeps_of_run _ _ c (hP.dataToSend n c h)
  -- the calls `step` runs with `runU`: left to itself the kernel unfolds the methods before it unfolds `step`
  all_goals simp only [step]
  case initiateConnection => exact keeps_of_runU _ c (hP.initiate c h)
  case sendHeaders sid hs es pw pd pe => exact keeps_of_runU _ c (hP.sendHeaders sid hs es pw pd pe c h)
  case pushStream sid p hs => exact keeps_of_runU _ c (hP.pushStream sid p hs c h)
  case sendData sid d es pad => exact keeps_of_runU _ c (hP.sendData sid d es pad c h)
  case endStream sid => exact keeps_of_runU _ c (hP.endStream sid c h)
  case incrementWindow i sid => exact keeps_of_runU _ c (hP.incrementWindow i sid c h)
  case ping d => exact keeps_of_runU _ c (hP.ping d c h)
  case resetStream sid code => exact keeps_of_runU _ c (hP.resetStream sid code c h)
  case closeConnection code extra last => exact keeps_of_runU _ c (hP.closeConnection code extra last c h)
  case updateSettings items => exact keeps_of_runU _ c (hP.updateSettings items c h)
  case altsvc f o sid => exact keeps_of_runU _ c (hP.altsvc f o sid c h)
  case prioritize sid w d e => exact keeps_of_runU _ c (hP.prioritize sid w d e c h)
  case ackData size sid => exact keeps_of_runU _ c (hP.ackData size sid c h)
  case clearOut => exact keeps_of_runU _ c (hP.clearOut c h)

theorem every_run (hs : ∀ c op, P c → P (step c op).1) (c : Conn) (ops : List Op) (h : P c) : P (run c ops).1 := by
  induction ops generalizing c with
  | nil => exact h
  | cons op ops ih => simp only [run]; exact ih _ (hs c op h)

/-- **every reachable state satisfies `P`**.  `receive_data` has to keep `P` only from states that satisfy the
    connection invariant `C29.Inv2` (a predicate kept for parsed frames only needs its `HbOk`); `hfeed`: `P` does not
    look at the HPACK oracles. -/
theorem every_history (hP : CallsKeep P) (hr : ∀ d c, C29.Inv2 c → P c → P (receiveData d c).2)
    (hfeed : ∀ c dec, P c → P (C17.feed c [] dec)) (cfg : Config) (hinit : P (Conn.init cfg))
    (c : Conn) (h : C29.Reachable cfg c) : P c := by
  induction h with
  | init => exact hinit
  | call c op hr' _ ih => exact step_keeps hP c op (fun d => hr d c (C29.C29_reachable_invariant cfg c hr')) ih
  | recv c d dec hr' hd ih =>
    have hi := C29.C29_reachable_invariant cfg c hr'
    rw [step_recv]
    exact hr d _ ⟨C17.C17_feed c [] dec hi.1 hd, hi.2⟩ (hfeed c dec ih)

/-- every public call keeps a predicate that survives the building blocks; `send_data`, which writes the connection
    window after looking at it, is asked for separately (`CallPrims.sendData` when `P` does not read the window) -/
theorem ApiPrims.callsKeep (hP : ApiPrims P) (hsd : ∀ sid d es pad, Keeps P (Conn.sendData sid d es pad)) : CallsKeep P where
  initiate := hP.initiate.run
  upgrade := fun hdr => (hP.upgrade hdr).run
  sendHeaders := fun sid hs es pw pd pe => (hP.sendHeaders sid hs es pw pd pe).run
  pushStream := fun sid p hs => (hP.pushStream sid p hs).run
  sendData := fun sid d es pad => (hsd sid d es pad).run
  endStream := fun sid => (hP.endStream sid).run
  incrementWindow := fun i sid => (hP.incrementWindow i sid).run
  ping := fun d => (hP.ping d).run
  resetStream := fun sid code => (hP.resetStream sid code).run
  closeConnection := fun code extra last => (hP.closeConnection code extra last).run
  updateSettings := fun items => (hP.updateSettings items).run
  altsvc := fun f o sid => (hP.altsvc f o sid).run
  prioritize := fun sid w d e => (hP.prioritize sid w d e).run
  ackData := fun size sid => (hP.ackData size sid).run
  dataToSend := fun n => (hP.dataToSend n).run
  clearOut := hP.clearOut.run
  localWindow := fun sid => (Keeps.localWindow sid).run
  remoteWindow := fun sid => (Keeps.remoteWindow sid).run
  nextStreamId := Keeps.nextStreamId.run
  openOut := (Keeps.openOut_of hP.openStreams).run
  openIn := (Keeps.openIn_of hP.openStreams).run

theorem ApiPrims.step_keeps (hP : ApiPrims P) (hfb : ∀ c fb, P c → P { c with fb := fb })
    (hw : ∀ c w, P c → P { c with outWin := w }) (c : Conn) (op : Op) (h : P c) : P (step c op).1 :=
  H2.step_keeps (hP.callsKeep (hP.sendData hw)) c op (fun d => stable_receiveData (hP.stable hfb hw) d c) h

theorem ApiPrims.every_history (hP : ApiPrims P) (hfb : ∀ c fb, P c → P { c with fb := fb })
    (hw : ∀ c w, P c → P { c with outWin := w }) (hhp : ∀ c hp, P c → P { c with hp := hp })
    (cfg : Config) (hinit : P (Conn.init cfg)) (c : Conn) (h : C29.Reachable cfg c) : P c :=
  H2.every_history (hP.callsKeep (hP.sendData hw)) (fun d c _ => stable_receiveData (hP.stable hfb hw) d c)
    (fun c _ => hhp c _) cfg hinit c h

end H2
