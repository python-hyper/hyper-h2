/-
  The credit equation of one flow-control window between two endpoints, with everything in flight.

  One window (a stream's, or the connection's): the sender's view `sOut`, the receiver's `WindowManager` (the code
  regenerated from windows.py), a FIFO queue sender → receiver carrying DATA frames and SETTINGS acknowledgements, a
  FIFO queue receiver → sender carrying WINDOW_UPDATE increments and SETTINGS frames that change INITIAL_WINDOW_SIZE.
  The sender sends DATA only within its view of the window (C03), applies an INITIAL_WINDOW_SIZE change when the
  SETTINGS frame arrives and acknowledges it (C11); the receiver applies its own change when the acknowledgement
  arrives (C11), hands out credit whenever it likes (C04/C05), and charges every DATA frame with the generated
  `window_consumed` (C04).  THEOREM (`data_never_overruns`): in every reachable configuration the DATA frame at the
  head of the queue is accepted by `window_consumed` — for all interleavings, any number of frames in flight, windows
  driven negative by a reduction included (RFC 7540 §6.9.2).  An empty DATA frame arriving in a negative window is
  exactly where the proof needs D43's repair (`C04_empty_frame_fits`).

  What this is not: a statement about `H2Connection`.  The steps of `Step` are the arithmetic that the connection
  model performs (C03_stream_send, C03_conn_window_update, C04_consumed, C04_opened, C04_process_bytes, C11_*); the
  system here composes them.  Overflow past 2^31-1 (known finding D44) is outside: the theorem is about DATA.
-/
import H2.Proofs.WinEq
import H2.Proofs.Splits
namespace H2
open H2.Gen
namespace PairCredit

/-- what travels from the sender to the receiver; `after` is a ghost: the sender's view of the window right after
    it sent the entry -/
inductive Ent where
  | data (n : Int) (after : Int)
  | ack (delta : Int) (after : Int)

def Ent.after : Ent → Int
  | .data _ a => a
  | .ack _ a => a

/-- what travels from the receiver to the sender -/
inductive Back where
  | credit (v : Int)        -- WINDOW_UPDATE
  | settings (delta : Int)  -- SETTINGS changing INITIAL_WINDOW_SIZE by delta (not yet in force at the receiver)

structure CS where
  sOut : Int
  r : WindowManager
  q : List Ent
  back : List Back

def creditsIn (b : List Back) : Int :=
  b.foldl (fun acc x => match x with | .credit v => acc + v | .settings _ => acc) 0

/-- the receiver's window after it will have processed an entry -/
def applyEnt (w : Int) : Ent → Int
  | .data n _ => w - n
  | .ack d _ => w + d

def replay (w : Int) (es : List Ent) : Int := es.foldl applyEnt w

inductive Step : CS → CS → Prop
  /-- a DATA frame within the sender's view of the window; an empty one always may go (RFC 7540 §6.9.1: what
      `end_stream()` writes unchecked; `send_data(b'')` itself is refused in a negative window, so the system admits
      more than the library sends) -/
  | send (c : CS) (n : Int) : 0 ≤ n → (n ≤ c.sOut ∨ n = 0) →
      Step c { c with sOut := c.sOut - n, q := c.q ++ [.data n (c.sOut - n)] }
  /-- the receiver hands out credit (`increment_flow_control_window`, `acknowledge_received_data`) -/
  | credit (c : CS) (v : Int) : 0 ≤ v →
      Step c { c with r := { c.r with current_window_size := c.r.current_window_size + v }, back := c.back ++ [.credit v] }
  /-- the receiver changes INITIAL_WINDOW_SIZE: in force only when acknowledged -/
  | settings (c : CS) (d : Int) : Step c { c with back := c.back ++ [.settings d] }
  /-- a WINDOW_UPDATE arrives at the sender -/
  | recvCredit (c : CS) (v : Int) (rest : List Back) : c.back = .credit v :: rest →
      Step c { c with sOut := c.sOut + v, back := rest }
  /-- the SETTINGS frame arrives at the sender: applied at once, acknowledged -/
  | recvSettings (c : CS) (d : Int) (rest : List Back) : c.back = .settings d :: rest →
      Step c { c with sOut := c.sOut + d, back := rest, q := c.q ++ [.ack d (c.sOut + d)] }
  /-- the acknowledgement arrives at the receiver: its own change takes effect -/
  | recvAck (c : CS) (d a : Int) (rest : List Ent) : c.q = .ack d a :: rest →
      Step c { c with r := { c.r with current_window_size := c.r.current_window_size + d }, q := rest }
  /-- a DATA frame arrives at the receiver and is charged by the generated `window_consumed` -/
  | recvData (c : CS) (n a : Int) (rest : List Ent) : c.q = .data n a :: rest →
      (c.r.window_consumed n).1 = .ok none →
      Step c { c with r := (c.r.window_consumed n).2, q := rest }

inductive Reach (c0 : CS) : CS → Prop
  | init : Reach c0 c0
  | step (c c' : CS) : Reach c0 c → Step c c' → Reach c0 c'

/-- the invariant: the credit equation for the end of the queue, and for every prefix of the queue the receiver's
    window after that prefix is at least what the sender believed it had at that moment -/
structure Inv (c : CS) : Prop where
  eq : c.sOut + creditsIn c.back = replay c.r.current_window_size c.q
  pre : ∀ pre e post, c.q = pre ++ e :: post → e.after ≤ replay c.r.current_window_size (pre ++ [e])
  dataOk : ∀ e ∈ c.q, ∀ n a, e = .data n a → 0 ≤ n ∧ (0 < n → 0 ≤ a)
  creditsNonneg : ∀ b ∈ c.back, ∀ v, b = .credit v → 0 ≤ v

theorem foldl_credits (b : List Back) (acc : Int) :
    b.foldl (fun acc x => match x with | .credit v => acc + v | .settings _ => acc) acc = acc + creditsIn b := by
  unfold creditsIn
  induction b generalizing acc with
  | nil => simp
  | cons x xs ih =>
    rw [List.foldl_cons, List.foldl_cons, ih, ih (acc := match x with | .credit v => 0 + v | .settings _ => 0)]
    cases x <;> simp <;> omega

theorem creditsIn_nil : creditsIn [] = 0 := rfl
theorem creditsIn_cons_credit (v : Int) (rest : List Back) : creditsIn (.credit v :: rest) = v + creditsIn rest :=
  (foldl_credits rest (0 + v)).trans (by rw [Int.zero_add])
theorem creditsIn_cons_settings (d : Int) (rest : List Back) : creditsIn (.settings d :: rest) = creditsIn rest :=
  (foldl_credits rest 0).trans (Int.zero_add _)

theorem creditsIn_append (a b : List Back) : creditsIn (a ++ b) = creditsIn a + creditsIn b := by
  unfold creditsIn
  rw [List.foldl_append, foldl_credits]
  rfl

theorem creditsIn_nonneg (b : List Back) (h : ∀ x ∈ b, ∀ v, x = .credit v → 0 ≤ v) : 0 ≤ creditsIn b := by
  induction b with
  | nil => exact Int.le_refl 0
  | cons x xs ih =>
    have ⟨hx, hxs⟩ := List.forall_mem_cons.mp h
    cases x with
    | credit v =>
      rw [creditsIn_cons_credit]
      have := hx v rfl
      have := ih hxs
      omega
    | settings d =>
      rw [creditsIn_cons_settings]
      exact ih hxs

theorem replay_append (w : Int) (a b : List Ent) : replay w (a ++ b) = replay (replay w a) b := by
  unfold replay; rw [List.foldl_append]
theorem replay_cons (w : Int) (e : Ent) (es : List Ent) : replay w (e :: es) = replay (applyEnt w e) es := rfl
theorem replay_snoc (w : Int) (es : List Ent) (e : Ent) : replay w (es ++ [e]) = applyEnt (replay w es) e :=
  replay_append w es [e]

theorem replay_shift (w v : Int) (es : List Ent) : replay (w + v) es = replay w es + v := by
  induction es generalizing w with
  | nil => rfl
  | cons e t ih =>
    rw [replay_cons, replay_cons]
    have : applyEnt (w + v) e = applyEnt w e + v := by cases e <;> simp [applyEnt] <;> omega
    rw [this, ih]

theorem consumed_cur (w : WindowManager) (n : Int) :
    (w.window_consumed n).2.current_window_size = w.current_window_size - n ∧
    ((w.window_consumed n).1 = .ok none ↔ ¬ (0 < n ∧ w.current_window_size - n < 0)) := by
  rw [WindowManager.window_consumed_eq]
  refine ⟨rfl, ?_⟩
  split
  · rename_i h; simp [h]
  · rename_i h; simp [h]

/-- The sender appends `e` and takes `e.after` for its view, having done to the sum of its view and the credit in
    flight what `e` will do to the receiver's window (`hsum`).  The prefix that ends in `e` is the whole queue, after
    which the receiver's window is, by the equation, `e.after` plus the credit in flight. -/
theorem Inv.push {c : CS} (h : Inv c) (e : Ent) (back : List Back)
    (hsum : e.after + creditsIn back = applyEnt (c.sOut + creditsIn c.back) e)
    (hd : ∀ n a, e = .data n a → 0 ≤ n ∧ (0 < n → 0 ≤ a)) (hback : ∀ b ∈ back, ∀ v, b = .credit v → 0 ≤ v) :
    Inv ⟨e.after, c.r, c.q ++ [e], back⟩ := by
  have heq : e.after + creditsIn back = replay c.r.current_window_size (c.q ++ [e]) := by
    rw [replay_snoc, ← h.eq, hsum]
  refine ⟨heq, forall_split_snoc h.pre ?_, ?_, hback⟩
  · show e.after ≤ replay c.r.current_window_size (c.q ++ [e])
    have := creditsIn_nonneg back hback
    omega
  · exact List.forall_mem_append.mpr ⟨h.dataOk, List.forall_mem_singleton.mpr hd⟩

/-- The receiver takes the oldest entry off the queue and does to its window what the entry says. -/
theorem Inv.pop {c : CS} (h : Inv c) {e : Ent} {rest : List Ent} (hq : c.q = e :: rest) (r : WindowManager)
    (hr : r.current_window_size = applyEnt c.r.current_window_size e) : Inv ⟨c.sOut, r, rest, c.back⟩ := by
  refine ⟨?_, ?_, (List.forall_mem_cons.mp (hq ▸ h.dataOk)).2, h.creditsNonneg⟩
  · show c.sOut + creditsIn c.back = replay r.current_window_size rest
    rw [hr, ← replay_cons, ← hq]
    exact h.eq
  · show ∀ pre e' post, rest = pre ++ e' :: post → e'.after ≤ replay r.current_window_size (pre ++ [e'])
    rw [hr]
    exact forall_split_tail hq h.pre

theorem inv_step (c c' : CS) (h : Inv c) (hs : Step c c') : Inv c' := by
  cases hs with
  | send n hn hfit =>
    refine h.push (.data n (c.sOut - n)) c.back ?_ ?_ h.creditsNonneg
    · show c.sOut - n + creditsIn c.back = c.sOut + creditsIn c.back - n
      omega
    · intro n' a' heq
      injection heq with hn' ha'
      omega
  | credit v hv =>
    refine ⟨?_, ?_, h.dataOk, List.forall_mem_append.mpr ⟨h.creditsNonneg, List.forall_mem_singleton.mpr ?_⟩⟩
    · show c.sOut + creditsIn (c.back ++ [.credit v]) = replay (c.r.current_window_size + v) c.q
      rw [creditsIn_append, creditsIn_cons_credit, creditsIn_nil, replay_shift, ← h.eq]
      omega
    · intro pre e post hsplit
      show e.after ≤ replay (c.r.current_window_size + v) (pre ++ [e])
      rw [replay_shift]
      have := h.pre pre e post hsplit
      omega
    · intro v' hv'
      injection hv' with hv'
      omega
  | settings d =>
    refine ⟨?_, h.pre, h.dataOk, List.forall_mem_append.mpr ⟨h.creditsNonneg, List.forall_mem_singleton.mpr nofun⟩⟩
    show c.sOut + creditsIn (c.back ++ [.settings d]) = _
    rw [creditsIn_append, creditsIn_cons_settings, creditsIn_nil, Int.add_zero]
    exact h.eq
  | recvCredit v rest hb =>
    refine ⟨?_, h.pre, h.dataOk, (List.forall_mem_cons.mp (hb ▸ h.creditsNonneg)).2⟩
    show c.sOut + v + creditsIn rest = replay c.r.current_window_size c.q
    rw [← h.eq, hb, creditsIn_cons_credit]
    omega
  | recvSettings d rest hb =>
    refine h.push (.ack d (c.sOut + d)) rest ?_ nofun (List.forall_mem_cons.mp (hb ▸ h.creditsNonneg)).2
    show c.sOut + d + creditsIn rest = c.sOut + creditsIn c.back + d
    rw [hb, creditsIn_cons_settings]
    omega
  | recvAck d a rest hq => exact h.pop hq _ rfl
  | recvData n a rest hq hok => exact h.pop hq _ (consumed_cur c.r n).1

theorem reach_inv (c0 c : CS) (h0 : Inv c0) (h : Reach c0 c) : Inv c := by
  induction h with
  | init => exact h0
  | step c c' _ hs ih => exact inv_step c c' ih hs

theorem inv_fresh (w : WindowManager) : Inv { sOut := w.current_window_size, r := w, q := [], back := [] } :=
  ⟨Int.add_zero _, fun pre e post h => by simp at h, nofun, nofun⟩

/-- **a DATA frame the sender was allowed to send never overruns the receiver's window**, whatever crosses it: in
    every configuration reachable from two fresh endpoints, the DATA frame at the head of the queue is accepted by the
    generated `window_consumed` -/
theorem data_never_overruns (w : WindowManager) (c : CS)
    (h : Reach { sOut := w.current_window_size, r := w, q := [], back := [] } c)
    (n a : Int) (rest : List Ent) (hq : c.q = .data n a :: rest) :
    (c.r.window_consumed n).1 = .ok none := by
  have hi := reach_inv _ c (inv_fresh w) h
  rw [(consumed_cur c.r n).2]
  intro ⟨hpos, hneg⟩
  have h1 : a ≤ c.r.current_window_size - n := hi.pre [] (.data n a) rest hq
  have h2 := (hi.dataOk (.data n a) (hq ▸ List.mem_cons_self ..) n a rfl).2 hpos
  omega

/-- non-vacuity: the sender has 100 bytes in flight when the receiver cuts the window to below them; the sender's
    view goes negative, the acknowledgement follows the data, and the data is still accepted -/
example : ∃ c, Reach { sOut := 65535, r := { max_window_size := 65535, current_window_size := 65535, bytes_processed := 0 },
                       q := [], back := [] } c ∧ c.sOut = -100 ∧ c.q.length = 2 := by
  refine ⟨_, Reach.step _ _ (Reach.step _ _ (Reach.step _ _ Reach.init (Step.send _ 100 (by decide) (Or.inl (by decide))))
    (Step.settings _ (-65535))) (Step.recvSettings _ (-65535) [] rfl), ?_, ?_⟩
  · decide
  · rfl

end PairCredit
end H2
