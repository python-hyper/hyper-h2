/-
  Receive path: the SETTINGS handler (peer settings applied and acknowledged; our settings acknowledged).
-/
import H2.Proofs.RecvHandlers
namespace H2
open H2.Gen H2.Conn

theorem forall_mem_replace {α} {P : α → Prop} {done xs : List α} {x y : α} (h : ∀ e ∈ done ++ x :: xs, P e)
    (hy : P x → P y) : ∀ e ∈ done ++ y :: xs, P e := by
  simp only [List.forall_mem_append, List.forall_mem_cons] at h ⊢
  exact ⟨h.1, hy h.2.1, h.2.2⟩

/-- `_flow_control_change_from_settings` keeps every per-stream property that one window adjustment keeps (also when
    the loop stops at an overflow: the streams already moved stay moved, the rest are untouched), and its only
    failure is the FlowControlError of `guard_increment_window` -/
theorem fcc_go_all (P : Int × Stream → Prop) (delta : Int)
    (hstep : ∀ k st w, guard_increment_window st.outWin delta = .ok w → P (k, st) → P (k, { st with outWin := w }))
    (done rest : List (Int × Stream)) (h : ∀ e ∈ done ++ rest, P e) :
    (∀ e ∈ (flowControlChangeFromSettings.go delta done rest).2, P e) ∧
    ∀ e, (flowControlChangeFromSettings.go delta done rest).1 = .error e → Plain e := by
  induction rest generalizing done with
  | nil => exact ⟨by simpa [flowControlChangeFromSettings.go] using h, nofun⟩
  | cons x xs ih =>
    obtain ⟨k, st⟩ := x
    simp only [flowControlChangeFromSettings.go]
    cases hg : guard_increment_window st.outWin delta with
    | error e =>
      refine ⟨h, fun e' he' => ?_⟩
      injection he' with he'; subst he'
      exact plain_giw hg
    | ok w =>
      apply ih
      rw [List.append_assoc]
      exact forall_mem_replace h (hstep k st w hg)

theorem inboundFlowControlChange_spec (delta : Int) (st : Stream) :
    wp (Stream.inboundFlowControlChange delta) (fun _ st' => st'.sm = st.sm) (fun e st' => Plain e ∧ st'.sm = st.sm)
      st := by
  unfold Stream.inboundFlowControlChange
  wps
  apply wp_onWM_good
  · intro e w' h; exact wm_opened_err _ _ _ _ h
  · intro v w; wps
  · intro e w hp; exact ⟨hp, rfl⟩

theorem ifcc_go_all (P : Int × Stream → Prop) (delta : Int)
    (hstep : ∀ k st, P (k, st) → P (k, (Stream.inboundFlowControlChange delta st).2))
    (done rest : List (Int × Stream)) (h : ∀ e ∈ done ++ rest, P e) :
    (∀ e ∈ (inboundFlowControlChangeFromSettings.go delta done rest).2, P e) ∧
    ∀ e, (inboundFlowControlChangeFromSettings.go delta done rest).1 = .error e → Plain e := by
  induction rest generalizing done with
  | nil => exact ⟨by simpa [inboundFlowControlChangeFromSettings.go] using h, nofun⟩
  | cons x xs ih =>
    obtain ⟨k, st⟩ := x
    simp only [inboundFlowControlChangeFromSettings.go]
    have hin := forall_mem_replace h (hstep k st)
    have hs := (wp_result (inboundFlowControlChange_spec delta st)).2
    cases hg : Stream.inboundFlowControlChange delta st with
    | mk r st' =>
      rw [hg] at hin hs
      cases r with
      | ok u => exact ih _ (by rwa [List.append_assoc])
      | error e => exact ⟨hin, fun e' he' => by injection he' with he'; subst he'; exact (hs e st' rfl).1⟩

theorem inboundFlowControlChange_sm (delta : Int) (st : Stream) :
    (Stream.inboundFlowControlChange delta st).2.sm = st.sm :=
  wp_state (wp_mono (inboundFlowControlChange_spec delta st) (fun _ _ h => h) fun _ _ h => h.2)

/-- a loop over the stream table, seen from the connection: what is known of the table it leaves (`P`) and of what
    it raises (`G`) is all the rest of the handler gets -/
theorem wp_onStreams {Q : Unit → Conn → Prop} {E : Exc → Conn → Prop} (P : List (Int × Stream) → Prop) (G : Exc → Prop)
    (go : List (Int × Stream) → Except Exc Unit × List (Int × Stream)) (c : Conn)
    (h1 : P (go c.streams).2) (h2 : ∀ e, (go c.streams).1 = .error e → G e)
    (hq : ∀ ss, P ss → Q () { c with streams := ss }) (he : ∀ e ss, G e → P ss → E e { c with streams := ss }) :
    wp (fun c => match go c.streams with | (r, ss) => (r, { c with streams := ss })) Q E c := by
  unfold wp
  simp only
  cases hg : go c.streams with
  | mk r ss =>
    rw [hg] at h1 h2
    cases r with
    | ok u => exact hq ss h1
    | error e => exact he e ss (h2 e rfl) h1

/-- a change of INITIAL_WINDOW_SIZE that `acknowledge()` reports comes with the old value (never `None`: the key is
    one of those a well-formed settings object has a current value for) -/
theorem iws_change_cases {changes : List (Int × Option Int × Int)}
    (hch : ∀ k old new, (k, old, new) ∈ changes →
      validB k (some new) = true ∧ (mustHave k = true → old.isSome = true)) :
    findChange changes SettingCodes.INITIAL_WINDOW_SIZE = none ∨
    ∃ o new, findChange changes SettingCodes.INITIAL_WINDOW_SIZE = some (some o, new) := by
  cases hf : findChange changes SettingCodes.INITIAL_WINDOW_SIZE with
  | none => exact .inl rfl
  | some on =>
    obtain ⟨o, ho⟩ := Option.isSome_iff_exists.mp ((hch _ _ _ (findChange_mem _ _ _ _ hf)).2 (by decide))
    exact .inr ⟨o, on.2, by rw [← ho]⟩

/-- the INITIAL_WINDOW_SIZE part of `_acknowledge_settings` / `_local_settings_acked`, for the changes `acknowledge()`
    reports: only the stream table changes, and the FlowControlError of a window that would overflow is `Plain` -/
theorem wp_remoteWindowChange_live {Q : Unit → Conn → Prop} {E : Exc → Conn → Prop}
    {changes : List (Int × Option Int × Int)} (c : Conn) (hl : Live c)
    (hch : ∀ k old new, (k, old, new) ∈ changes → validB k (some new) = true ∧ (mustHave k = true → old.isSome = true))
    (hq : ∀ ss, StreamsNotIdle ss → Q () { c with streams := ss })
    (he : ∀ e ss, Plain e → StreamsNotIdle ss → E e { c with streams := ss }) :
    wp (remoteWindowChange changes) Q E c := by
  unfold remoteWindowChange
  obtain hf | ⟨o, new, hf⟩ := iws_change_cases hch <;> rw [hf]
  · exact hq _ hl.notIdle
  · have := fcc_go_all (fun e => e.2.sm.state ≠ .IDLE) (new - o) (fun _ _ _ _ h => h) [] c.streams hl.notIdle
    exact wp_onStreams StreamsNotIdle Plain (flowControlChangeFromSettings.go (new - o) []) c this.1 this.2 hq he

theorem wp_localWindowChange_live {Q : Unit → Conn → Prop} {E : Exc → Conn → Prop}
    {changes : List (Int × Option Int × Int)} (c : Conn) (hl : Live c)
    (hch : ∀ k old new, (k, old, new) ∈ changes → validB k (some new) = true ∧ (mustHave k = true → old.isSome = true))
    (hq : ∀ ss, StreamsNotIdle ss → Q () { c with streams := ss })
    (he : ∀ e ss, Plain e → StreamsNotIdle ss → E e { c with streams := ss }) :
    wp (localWindowChange changes) Q E c := by
  unfold localWindowChange
  obtain hf | ⟨o, new, hf⟩ := iws_change_cases hch <;> rw [hf]
  · exact hq _ hl.notIdle
  · have := ifcc_go_all (fun e => e.2.sm.state ≠ .IDLE) (new - o)
      (fun _ st h => by rw [inboundFlowControlChange_sm]; exact h) [] c.streams hl.notIdle
    exact wp_onStreams StreamsNotIdle Plain (inboundFlowControlChangeFromSettings.go (new - o) []) c this.1 this.2 hq he

theorem wp_localSettingsAcked {Q : List (Int × Option Int × Int) → Conn → Prop} {E : Exc → Conn → Prop} (c : Conn)
    (hl : Live c) (hq : ∀ a c', Live c' → Q a c') (he : ∀ e c', Plain e → WF c' → E e c') :
    wp localSettingsAcked Q E c := by
  unfold localSettingsAcked
  wps
  have hack := acknowledge_ok c.localSettings hl.ls
  have hack32 := ls32_acknowledge c.localSettings hl.ls32
  have hch := acknowledge_changes c.localSettings hl.ls.entries
  generalize (Settings.acknowledge c.localSettings).1 = changes at *
  generalize (Settings.acknowledge c.localSettings).2 = ls' at *
  have hl1 : Live { c with localSettings := ls' } := { hl with ls := hack, ls32 := hack32 }
  have fin : ∀ ss, StreamsNotIdle ss →
      Q changes (localOtherChanges changes { c with localSettings := ls', streams := ss }) := by
    intro ss hss
    rw [localOtherChanges_eq]
    exact hq _ _ { hl1 with notIdle := hss }
  apply wp_localWindowChange_live _ hl1 hch
  · intro ss hss; wps; exact fin ss hss
  · intro e ss hp hss; exact he _ _ hp ⟨hl1.toWFb.congr, fun _ => hss⟩


theorem wp_acknowledgeSettings {Q : List Frame → Conn → Prop} {E : Exc → Conn → Prop} (c : Conn)
    (hl : Live c) (hq : ∀ fs c', Live c' → FramesOk fs → Q fs c') (he : ∀ e c', Plain e → WF c' → E e c') :
    wp acknowledgeSettings Q E c := by
  unfold acknowledgeSettings
  wps
  apply wp_connInput_live _ _ hl.wf (by unfold notGoaway; decide)
  · intro t hl0
    wps
    have hack := acknowledge_ok c.remoteSettings hl.rs
    have hch := acknowledge_changes c.remoteSettings hl.rs.entries
    generalize (Settings.acknowledge c.remoteSettings).1 = changes at *
    generalize (Settings.acknowledge c.remoteSettings).2 = rs' at *
    have hl1 : Live { c with cstate := t, remoteSettings := rs' } := { hl0 with rs := hack }
    have fin : ∀ ss, StreamsNotIdle ss →
        Q [Frame.settings true []]
          (remoteOtherChanges changes { c with cstate := t, remoteSettings := rs', streams := ss }) := by
      intro ss hss
      apply hq _ _ _ (framesOk_one (f := Frame.settings true []) trivial)
      rw [remoteOtherChanges_eq]
      cases hf : findChange changes SettingCodes.MAX_FRAME_SIZE with
      | none => exact { hl1 with notIdle := hss }
      | some on =>
        have hm := hch _ _ _ (findChange_mem _ _ _ _ hf)
        exact { hl1 with mof := (validB_frame on.2 hm.1).1, notIdle := List.forall_mem_map.mpr hss }
    apply wp_remoteWindowChange_live _ hl1 hch
    · intro ss hss; wps; exact fin ss hss
    · intro e ss hp hss; exact he _ _ hp ⟨hl1.toWFb.congr, fun _ => hss⟩
  · intro h; exact he _ _ plain_pErr h

theorem settings_nonAck (items : List (Int × Int)) (c : Conn) (hwf : WF c) :
    wp (receiveSettingsFrame false items) HQ (fun e c' => Plain e ∧ WF c') c := by
  unfold receiveSettingsFrame
  wps
  apply wp_connInput_live _ _ hwf (by unfold notGoaway; decide)
  · intro t hl
    simp only [Bool.false_eq_true, if_false]
    wps
    have hu := update_spec c.remoteSettings items hl.rs
    cases hU : Settings.update c.remoteSettings items with
    | mk r s' =>
      rw [hU] at hu
      have hl1 : Live { c with cstate := t, remoteSettings := s' } := { hl with rs := hu.1 }
      cases r with
      | error e =>
        simp only
        wps
        exact ⟨hu.2 e rfl, hl1.wf⟩
      | ok u =>
        simp only
        wps
        apply wp_acknowledgeSettings _ hl1
        · intro fs c' hl' hfs; wps; exact ⟨hl'.wf, hfs⟩
        · intro e c' hp hw; exact ⟨hp, hw⟩
  · intro h; exact ⟨plain_pErr, h⟩

theorem hspec_settings (ack : Bool) (items : List (Int × Int)) (c : Conn) (hwf : WF c) :
    wp (receiveSettingsFrame ack items) HQ CE c := by
  cases ack
  · exact wp_mono (settings_nonAck items c hwf) (fun _ _ h => h) (fun _ _ h => CE_plain h.1 h.2.1)
  unfold receiveSettingsFrame
  wps
  apply wp_connInput_CE _ _ hwf (by unfold notGoaway; decide)
  intro t hl
  simp only [if_true]
  wps
  apply wp_localSettingsAcked _ hl
  · intro a c' hl'; wps; exact ⟨hl'.wf, framesOk_nil⟩
  · intro e c' hp hw; exact CE_plain hp hw.wfb

/-- `_receive_settings_frame` on a frame that is not an ACK, called from the application's side (the h2c upgrade hands
    it the decoded HTTP2-Settings): whether it returns or raises, the invariant holds afterwards, and what it raises is
    a protocol error with a proper code -/
theorem settings_user (items : List (Int × Int)) (c : Conn) (hwf : WF c) :
    wp (receiveSettingsFrame false items) (fun _ c' => WF c') (fun e c' => Plain e ∧ WF c') c :=
  wp_mono (settings_nonAck items c hwf) (fun _ _ h => h.1) (fun _ _ h => h)

end H2
