/-
  On a CLOSED connection every public call that feeds the connection state machine an input other than GOAWAY
  (`close_connection` is the one that feeds SEND_GOAWAY, and returns), and every frame handler but GOAWAY's, dies at
  (or before) that input: whatever it would have written or changed after that point, it never gets there.  The
  calls, then the handlers and the dispatcher, for any predicate `P` that survives what runs before the input.
-/
import H2.Proofs.KeepsConn

namespace H2
open H2.Gen H2.Conn

abbrev ClosedAnd (P : Conn → Prop) (c : Conn) : Prop := c.cstate = .CLOSED ∧ P c

variable {P : Conn → Prop}

/-- what is asked of `P`: it does not read the connection state, and survives what a call or a handler may do before
    it asks the connection state machine: count the open streams, run the HPACK decoder, run a stream method (the
    handler of a naked CONTINUATION frame).  The default of a field is its proof for a `P` that does not read what is
    written. -/
structure ClosedPrims (P : Conn → Prop) : Prop where
  cstate : ∀ c x, P c → P { c with cstate := x } := by exact fun _ _ h => h
  openStreams : ∀ r, Keeps P (openStreams r) := by exact Keeps.openStreams_of fun _ _ _ h => h
  decodeHeaders : ∀ b, Keeps P (decodeHeaders b) := by exact Keeps.decodeHeaders_of fun _ _ h => h
  withStream : ∀ {α : Type} sid (m : M Stream α), Keeps P (withStream sid m) := by
    exact Keeps.withStream_of fun _ _ h => h

theorem Keeps.closedAnd {α : Type} {m : CM α} (hm : Keeps P m) (hc : ∀ c, (m c).2.cstate = c.cstate) :
    Keeps (ClosedAnd P) m :=
  .of_state fun c h => ⟨(hc c).trans h.1, hm.state c h.2⟩

namespace ClosedPrims
variable (hP : ClosedPrims P)
include hP

/-- an input the CLOSED state refuses: the call dies there.  (In the walks below the input is left to unification and
    the refusal to `decide`: every input but the two GOAWAY ones is refused, `closed_refuses`.) -/
theorem connInput (i : ConnectionInputs) (hi : connTable .CLOSED i = none) : Raises (ClosedAnd P) (connInput i) :=
  ⟨fun c h => by
    simp only [wp, Conn.connInput, h.1, hi]
    exact ⟨rfl, hP.cstate c _ h.2⟩⟩

/-- one of the two GOAWAY inputs, or any other: still CLOSED (the table's CLOSED row is absorbing) -/
theorem connInput_keeps (i : ConnectionInputs) : Keeps (ClosedAnd P) (Conn.connInput i) :=
  (Keeps.connInput_closed i).and (Keeps.connInput_of hP.cstate i)

theorem openOut : Keeps (ClosedAnd P) openOutboundStreams :=
  Keeps.openOut_of fun r => (hP.openStreams r).closedAnd fun _ => rfl

theorem openIn : Keeps (ClosedAnd P) openInboundStreams :=
  Keeps.openIn_of fun r => (hP.openStreams r).closedAnd fun _ => rfl

theorem decode (b : Bytes) : Keeps (ClosedAnd P) (Conn.decodeHeaders b) :=
  (Keeps.decodeHeaders_of (P := fun c => c.cstate = .CLOSED) (fun _ _ h => h) b).and (hP.decodeHeaders b)

theorem stream {α : Type} (sid : Int) (m : M Stream α) : Keeps (ClosedAnd P) (Conn.withStream sid m) :=
  (Keeps.withStream_of (P := fun c => c.cstate = .CLOSED) (fun _ _ h => h) sid m).and (hP.withStream sid m)

theorem sendHeaders (sid : Int) (hs : List Header) (es : Bool) (pw pd : Option Int) (pe : Option Bool) :
    Raises (ClosedAnd P) (sendHeaders sid hs es pw pd pe) := by
  unfold Conn.sendHeaders sendHeadersTail
  raises_walk [Keeps.getStreamById _, hP.openOut] [hP.connInput _ (by decide)]
theorem sendData (sid : Int) (d : Bytes) (es : Bool) (pad : Option Int) :
    Raises (ClosedAnd P) (sendData sid d es pad) := by
  unfold Conn.sendData sendDataCore
  raises_walk [Keeps.localWindow _] [hP.connInput _ (by decide)]
theorem endStream (sid : Int) : Raises (ClosedAnd P) (endStream sid) := by
  unfold Conn.endStream; raises_walk [] [hP.connInput _ (by decide)]
theorem incrementWindow (n : Int) (sid : Option Int) : Raises (ClosedAnd P) (incrementFlowControlWindow n sid) := by
  unfold incrementFlowControlWindow; raises_walk [] [hP.connInput _ (by decide)]
theorem pushStream (sid p : Int) (hs : List Header) : Raises (ClosedAnd P) (pushStream sid p hs) := by
  unfold Conn.pushStream; raises_walk [] [hP.connInput _ (by decide)]
theorem ping (d : Bytes) : Raises (ClosedAnd P) (ping d) := by
  unfold Conn.ping; raises_walk [] [hP.connInput _ (by decide)]
theorem resetStream (sid code : Int) : Raises (ClosedAnd P) (resetStream sid code) := by
  unfold Conn.resetStream; raises_walk [] [hP.connInput _ (by decide)]
theorem updateSettings (items : List (Int × Int)) : Raises (ClosedAnd P) (updateSettings items) := by
  unfold Conn.updateSettings; raises_walk [] [hP.connInput _ (by decide)]
theorem altsvc (f : Bytes) (o : Option Bytes) (sid : Option Int) :
    Raises (ClosedAnd P) (advertiseAlternativeService f o sid) := by
  unfold advertiseAlternativeService; raises_walk [] [hP.connInput _ (by decide)]
theorem prioritize (sid : Int) (w d : Option Int) (e : Option Bool) : Raises (ClosedAnd P) (prioritize sid w d e) := by
  unfold Conn.prioritize; raises_walk [] [hP.connInput _ (by decide)]
theorem initiate : Raises (ClosedAnd P) initiateConnection := by
  unfold initiateConnection; raises_walk [] [hP.connInput _ (by decide)]
theorem settingsFrame (ack : Bool) (items : List (Int × Int)) :
    Raises (ClosedAnd P) (receiveSettingsFrame ack items) := by
  unfold receiveSettingsFrame; raises_walk [] [hP.connInput _ (by decide)]

theorem dataFrame (sid : Int) (p : Bytes) (es : Bool) (fcl : Int) :
    Raises (ClosedAnd P) (receiveDataFrame sid p es fcl) := by
  unfold receiveDataFrame; raises_walk [] [hP.connInput _ (by decide)]
theorem windowUpdateFrame (sid incr : Int) : Raises (ClosedAnd P) (receiveWindowUpdateFrame sid incr) := by
  unfold receiveWindowUpdateFrame; raises_walk [] [hP.connInput _ (by decide)]
theorem pingFrame (a : Bool) (p : Bytes) : Raises (ClosedAnd P) (receivePingFrame a p) := by
  unfold receivePingFrame; raises_walk [] [hP.connInput _ (by decide)]
theorem rstFrame (sid code : Int) : Raises (ClosedAnd P) (receiveRstStreamFrame sid code) := by
  unfold receiveRstStreamFrame; raises_walk [] [hP.connInput _ (by decide)]
theorem priorityFrame (sid : Int) (p : Prio) : Raises (ClosedAnd P) (receivePriorityFrame sid p) := by
  unfold receivePriorityFrame; raises_walk [] [hP.connInput _ (by decide)]
theorem altsvcFrame (sid : Int) (o f : Bytes) : Raises (ClosedAnd P) (receiveAltSvcFrame sid o f) := by
  unfold receiveAltSvcFrame; raises_walk [] [hP.connInput _ (by decide)]
theorem continuationFrame (sid : Int) : Raises (ClosedAnd P) (receiveNakedContinuation sid) := by
  unfold receiveNakedContinuation; raises_walk [Keeps.getStreamById _, hP.stream _ _] []
theorem headersFrame (sid : Int) (b : Bytes) (es : Bool) (pr : Option Prio) :
    Raises (ClosedAnd P) (receiveHeadersFrame sid b es pr) := by
  unfold receiveHeadersFrame receiveHeadersRest
  raises_walk [hP.openIn, hP.decode _] [hP.connInput _ (by decide)]
theorem pushFrame (sid p : Int) (b : Bytes) : Raises (ClosedAnd P) (receivePushPromiseFrame sid p b) := by
  unfold receivePushPromiseFrame; raises_walk [hP.decode _] [hP.connInput _ (by decide)]

/-- on a closed connection a handler either dies, or (GOAWAY, unknown frame types) returns no frames -/
theorem dispatch (hout : ∀ c, P c → P { c with out := [] }) (rf : RFrame) (c : Conn) (h : ClosedAnd P c) :
    wp (dispatch rf) (fun fe c' => fe.1 = [] ∧ ClosedAnd P c') (fun _ => ClosedAnd P) c := by
  unfold Conn.dispatch
  split
  · exact (hP.headersFrame _ _ _ _).wp_any c h
  · exact (hP.pushFrame _ _ _).wp_any c h
  · exact (hP.settingsFrame _ _).wp_any c h
  · exact (hP.dataFrame _ _ _ _).wp_any c h
  · exact (hP.windowUpdateFrame _ _).wp_any c h
  · exact (hP.pingFrame _ _).wp_any c h
  · exact (hP.rstFrame _ _).wp_any c h
  · exact (hP.priorityFrame _ _).wp_any c h
  · unfold receiveGoawayFrame clearOutboundDataBuffer
    simp only [wp, Conn.connInput, bind, M.bind, conn_recvGoaway_closes]
    exact ⟨rfl, rfl, hout _ (hP.cstate c _ h.2)⟩
  · exact (hP.continuationFrame _).wp_any c h
  · exact (hP.altsvcFrame _ _ _).wp_any c h
  · exact ⟨rfl, h⟩

theorem upgrade (hdr : Option Bytes) :
    Raises (ClosedAnd P)
      (initiateUpgradeConnection (fun items => do let _ ← receiveSettingsFrame false items; pure ()) hdr) := by
  unfold initiateUpgradeConnection
  -- the decoded HTTP2-Settings go to the SETTINGS handler in one arm of a `match` only, so that step is taken as one
  -- that keeps `ClosedAnd P` (it raises, which keeps it); the call dies at the state-machine input that follows
  raises_walk [((hP.settingsFrame _ _).bind_left).keeps] [hP.connInput _ (by decide)]

end ClosedPrims

/-- `acknowledge_received_data` on a closed connection returns (or rejects its arguments) without touching anything -/
theorem ackData_closed (size sid : Int) (c : Conn) (hc : c.cstate = .CLOSED) :
    wp (acknowledgeReceivedData size sid) (fun _ c' => c' = c) (fun _ c' => c' = c) c := by
  simp only [acknowledgeReceivedData]
  wps
  refine ite_intro (fun _ => trivial) fun _ => ite_intro (fun _ => trivial) fun _ => ?_
  refine (Keeps.getStreamById (P := fun c' => c' = c) sid).cps c rfl (fun _ _ h => ?_) fun e _ h => ?_ <;> subst h
  · wps; simp [hc]
  · split
    · simp [hc]
    · rfl

end H2
