/-
  Public calls (C29): a call returns, or raises an allowed exception (an h2 exception, or ValueError for a documented
  argument check) and then `_data_to_send` and the history of sent frames are what they were.
  `ApiOk m c` is that statement for the call `m` in state `c`; `Refused m c sid` says the call is refused by the
  stream lookup with exactly the exception `_get_stream_by_id` documents.  A call is taken apart into the stream method
  it runs (which raises allowed exceptions only, `SAllowed`) and the frames it hands to `_prepare_for_sending` (which
  fit, `Frame.Fits`, so that neither its `assert` nor `struct.pack` can fail).
-/
import H2.Proofs.KeepsConn
import H2.Proofs.SettingsOk
namespace H2
open H2.Gen H2.Conn

/-! ### the exceptions a public call may raise -/

/-- the exceptions a public call may raise: h2 exceptions, and `ValueError` for documented argument checks -/
def Allowed (e : Exc) : Prop :=
  match e with
  | .h2 _ _ _ _ => True
  | .py k => k = .ValueError

theorem allowed_h2 (cls : ExcClass) (code : Option Int) (sid : Option Int) (evs : List Event) :
    Allowed (.h2 cls code sid evs) := trivial
theorem allowed_mkExc (cls : ExcClass) (sid : Option Int) : Allowed (mkExc cls sid) := trivial
theorem allowed_pErr : Allowed pErr := trivial
theorem allowed_value : Allowed (.py .ValueError) := rfl
theorem StepExc.allowed {sid : Int} {e : Exc} (h : StepExc sid e) : Allowed e := by
  obtain rfl | ⟨_, rfl⟩ := h <;> trivial

theorem allowed_lookupExc (c : Conn) (sid : Int) : Allowed (lookupExc c sid) := by
  unfold lookupExc; split <;> split <;> trivial

theorem allowed_of_instance (e : Exc) (cls : ExcClass) (h : e.isInstance cls = true) : Allowed e := by
  cases e with
  | h2 _ _ _ _ => trivial
  | py k => simp [Exc.isInstance] at h

theorem allowed_of_plain {e : Exc} (h : Plain e) : Allowed e := by
  cases e with
  | h2 _ _ _ _ => trivial
  | py k => exact h.1.elim

/-! ### nothing is written before `_prepare_for_sending` -/

def OS (c : Conn) : Bytes × List Frame := (c.out, c.sent)

section
variable {α : Type} {Q : α → Conn → Prop} {E : Exc → Conn → Prop}

theorem os_withStream (sid : Int) (m : M Stream α) (c : Conn) (s0) (h : OS c = s0)
    (hq : ∀ a c', OS c' = s0 → c'.maxOutFrame = c.maxOutFrame → Q a c') (he : ∀ e c', OS c' = s0 → E e c') :
    wp (withStream sid m) Q E c :=
  (Keeps.withStream_of (P := fun c' => OS c' = s0 ∧ c'.maxOutFrame = c.maxOutFrame) (fun _ _ h => h) sid m).cps c ⟨h, rfl⟩
    (fun a c' h' => hq a c' h'.1 h'.2) fun e c' h' => he e c' h'.1

theorem os_getStreamById {Q : Unit → Conn → Prop} (sid : Int) (c : Conn) (s0) (h : OS c = s0)
    (hq : ∀ c', OS c' = s0 → c'.maxOutFrame = c.maxOutFrame → Q () c') (he : ∀ e c', OS c' = s0 → E e c') :
    wp (getStreamById sid) Q E c :=
  (Keeps.getStreamById (P := fun c' => OS c' = s0 ∧ c'.maxOutFrame = c.maxOutFrame) sid).cps c ⟨h, rfl⟩
    (fun _ c' h' => hq c' h'.1 h'.2) fun e c' h' => he e c' h'.1

end

theorem getStreamById_cases {Q : Unit → Conn → Prop} {E : Exc → Conn → Prop} (sid : Int) (c : Conn)
    (hq : hasStream c sid = true → Q () c) (he : ∀ e, Allowed e → E e c) : wp (getStreamById sid) Q E c := by
  rw [wp_getStreamById_lookup]
  exact ite_intro hq fun _ => he _ (allowed_lookupExc c sid)

/-- stream methods raise h2 exceptions only (no IndexError / AssertionError / KeyError) -/
def SAllowed {α} (R : α → Prop) (m : M Stream α) : Prop :=
  ∀ st, wp m (fun a _ => R a) (fun e _ => Allowed e) st

theorem os_withStream_of_allowed {α} {Q : α → Conn → Prop} {E : Exc → Conn → Prop} (R : α → Prop) (sid : Int) (m : M Stream α)
    (c : Conn) (s0) (h : OS c = s0) (hex : hasStream c sid = true) (hm : SAllowed R m)
    (hq : ∀ a c', R a → OS c' = s0 → c'.maxOutFrame = c.maxOutFrame → Q a c')
    (he : ∀ e c', Allowed e → OS c' = s0 → E e c') : wp (withStream sid m) Q E c := by
  obtain ⟨st, hl⟩ := lookup_of_hasStream c sid hex
  rw [wp_withStream, hl]
  exact wp_mono (hm st) (fun a _ hr => hq a _ hr h rfl) fun e _ ha => he e _ ha h

/-! ### the stream methods behind the calls -/

/-- `reset_stream`, `end_stream`, `advertise_alternative_service`: one input to the state machine, one frame built
    from the stream id -/
theorem sallowed_input (i : StreamInputs) (g : Int → Frame) :
    SAllowed (fun fs => ∃ sid, fs = [g sid]) (do let _ ← processInput i; let s ← getS; pure [g s.sid]) := by
  intro st
  wps
  refine wp_processInput_rule _ _ (fun evs sh _ => ?_) fun _ _ h _ _ => h.allowed
  wps
  exact ⟨_, rfl⟩

theorem sallowed_incWindow (incr : Int) :
    SAllowed (fun fs => ∃ sid, fs = [Frame.windowUpdate sid incr]) (Stream.increaseFlowControlWindow incr) := by
  intro st
  unfold Stream.increaseFlowControlWindow
  wps
  refine wp_processInput_rule _ _ (fun evs sh _ => ?_) fun _ _ h _ _ => h.allowed
  wps
  refine wp_onWM_good _ _ (fun _ _ => wm_opened_err _ _ _ _) (fun v w => ?_) fun _ _ => allowed_of_plain
  wps
  exact ⟨_, rfl⟩

theorem sallowed_ackData (size : Int) :
    SAllowed (fun fs => ∀ f ∈ fs, ∃ sid n, f = Frame.windowUpdate sid n) (Stream.acknowledgeReceivedData size) := by
  intro st
  unfold Stream.acknowledgeReceivedData
  wps
  rw [wp_onWM]
  obtain ⟨v, w, hp⟩ := wm_process_ok st.inWM size
  rw [hp]
  simp only
  wps
  cases v with
  | none => wps; exact fun _ h => nomatch h
  | some n => simp only; split <;> wps <;> first | exact List.forall_mem_singleton.mpr ⟨_, _, rfl⟩ | exact fun _ h => nomatch h

/-- `H2Stream.send_data`, with `n` for the flow-controlled length as the method computes it (`fclOf`, `C03.fcLen`): a
    call that returns has handed back the one DATA frame and charged `n` to the stream's window, which admitted it;
    a call that raises was refused by the state machine, or `n` was beyond the window (the method's `assert`, which
    `H2Connection.send_data` rules out by its own check) -/
theorem stream_sendData_spec (data : Bytes) (es : Bool) (pad : Option Int) (st : Stream) (n : Int)
    (hn : n = data.length + (match pad with | some p => p + 1 | none => 0)) :
    wp (Stream.sendData data es pad)
      (fun fs st' => fs = [Frame.data st.sm.sid data es pad] ∧ st'.outWin = st.outWin - n ∧ 0 ≤ st'.outWin ∧
        st'.inWM = st.inWM)
      (fun e _ => Allowed e ∨ st.outWin - n < 0) st := by
  subst hn
  unfold Stream.sendData
  wps
  refine wp_processInput_rule _ _ (fun evs sh _ => ?_) fun _ _ h _ _ => .inl h.allowed
  -- with or without the second step of the state machine, only the shape has moved when the window is charged
  split
  · wps
    refine wp_processInput_rule _ _ (fun evs2 sh2 _ => ?_) fun _ _ h _ _ => .inl h.allowed
    wps
    exact ite_intro .inr fun h => ⟨rfl, rfl, Int.not_lt.mp h, rfl⟩
  · wps
    exact ite_intro .inr fun h => ⟨rfl, rfl, Int.not_lt.mp h, rfl⟩

/-! ### writing frames that fit -/

theorem wp_prepare_one {E : Exc → Conn → Prop} (f : Frame) (c : Conn) (hf : f.Fits c.maxOutFrame) :
    wp (prepareForSending [f]) (fun _ _ => True) E c :=
  wp_prepare_fits _ _ (List.forall_mem_singleton.mpr hf) fun _ => trivial

theorem wp_prepare_wus {E : Exc → Conn → Prop} (fs : List Frame) (c : Conn) (hm : 4 ≤ c.maxOutFrame)
    (h : ∀ f ∈ fs, ∃ s n, f = Frame.windowUpdate s n) : wp (prepareForSending fs) (fun _ _ => True) E c :=
  wp_prepare_fits _ _ (fun f hf => by obtain ⟨s, n, rfl⟩ := h f hf; exact wu_fits s n _ hm) fun _ => trivial

/-! ### `_check_priority` and `_add_frame_priority` grant the ranges of a PRIORITY field -/

theorem checkPriority_ok (sid : Int) (w d : Option Int) (h : checkPriority sid w d = .ok ()) :
    (∀ dv, d = some dv → 0 ≤ dv ∧ dv ≤ 2147483647) ∧ (∀ wv, w = some wv → 1 ≤ wv ∧ wv ≤ 256) := by
  unfold checkPriority at h
  simp only [HIGHEST_ALLOWED_STREAM_ID] at h
  -- each `if` that was passed yields its range
  rcases d with _ | x <;> rcases w with _ | y <;> grind

theorem checkPriority_err (sid : Int) (w d : Option Int) (x : Exc) (h : checkPriority sid w d = .error x) : x = pErr := by
  unfold checkPriority at h
  -- every `.error` in `_check_priority` is the same ProtocolError
  repeat' split at h
  all_goals first
    | (injection h with h; exact h.symm)
    | (simp at h; done)

theorem framePriority_cases (sid : Int) (w d : Option Int) (e : Option Bool) :
    (checkPriority sid w d = .ok () ∧ framePriority sid w d e = .ok
      { weight := (match w with | some w => w - 1 | none => 15), dependsOn := d.getD 0, exclusive := e.getD false }) ∨
    framePriority sid w d e = .error pErr := by
  unfold framePriority
  cases hc : checkPriority sid w d with
  | error x => rw [checkPriority_err _ _ _ _ hc]; exact .inr rfl
  | ok u => exact .inl ⟨rfl, rfl⟩

theorem framePriority_ok (sid : Int) (w d : Option Int) (e : Option Bool) (p : Prio)
    (h : framePriority sid w d e = .ok p) : (0 ≤ p.dependsOn ∧ p.dependsOn ≤ 2147483647) ∧ (0 ≤ p.weight ∧ p.weight ≤ 255) := by
  obtain ⟨hc, hp⟩ | hp := framePriority_cases sid w d e <;> rw [hp] at h <;> cases h
  obtain ⟨h1, h2⟩ := checkPriority_ok sid w d hc
  constructor
  · cases d with
    | none => simp
    | some dv => simpa using h1 dv rfl
  · cases w with
    | none => simp
    | some wv => have := h2 wv rfl; simp; omega

theorem framePriority_err (sid : Int) (w d : Option Int) (e : Option Bool) (x : Exc)
    (h : framePriority sid w d e = .error x) : Allowed x := by
  obtain ⟨_, hp⟩ | hp := framePriority_cases sid w d e <;> rw [hp] at h <;> cases h
  exact allowed_pErr

/-! ### `update_settings` validates the whole list before it stores anything -/

/-- `update_settings`'s check of one pair: it passed `_validate_setting` and fits the wire, and the answer is the
    rest's; or the list is refused with InvalidSettingsValueError -/
theorem validateSettingsList_cases (k v : Int) (rest : List (Int × Int)) :
    (validate_setting k v = .ok 0 ∧ (0 ≤ v ∧ v ≤ 4294967295) ∧
      validateSettingsList ((k, v) :: rest) = validateSettingsList rest) ∨
    ∃ code, validateSettingsList ((k, v) :: rest) = .error (.h2 .InvalidSettingsValueError (some code) none []) := by
  obtain ⟨code, hv, _, _⟩ := validate_setting_ok k v
  simp only [validateSettingsList, hv]
  -- whichever code the range check leaves: refused with a code that is not 0, or both checks were passed
  split <;> split
  · exact .inr ⟨_, rfl⟩
  · rename_i h1 h2
    simp [ErrorCodes.PROTOCOL_ERROR] at h1 h2
  · exact .inr ⟨_, rfl⟩
  · rename_i h1 h2
    simp at h1 h2
    subst h2
    exact .inl ⟨rfl, ⟨(h1 rfl).1.2, (h1 rfl).2⟩, rfl⟩

theorem validateSettingsList_cons (k v : Int) (rest : List (Int × Int)) (h : validateSettingsList ((k, v) :: rest) = .ok ()) :
    validate_setting k v = .ok 0 ∧ (0 ≤ v ∧ v ≤ 4294967295) ∧ validateSettingsList rest = .ok () := by
  obtain ⟨hv, hr, heq⟩ | ⟨_, he⟩ := validateSettingsList_cases k v rest
  · exact ⟨hv, hr, heq ▸ h⟩
  · rw [he] at h; cases h

theorem validateSettingsList_ok (items : List (Int × Int)) (h : validateSettingsList items = .ok ()) :
    ∀ kv ∈ items, 0 ≤ kv.2 ∧ kv.2 < 4294967296 := by
  induction items with
  | nil => exact fun _ hkv => nomatch hkv
  | cons x xs ih =>
    obtain ⟨_, hr, hrest⟩ := validateSettingsList_cons x.1 x.2 xs h
    exact List.forall_mem_cons.mpr ⟨⟨hr.1, by omega⟩, ih hrest⟩

theorem validateSettingsList_err (items : List (Int × Int)) (e : Exc) (h : validateSettingsList items = .error e) :
    Allowed e := by
  induction items with
  | nil => cases h
  | cons x xs ih =>
    obtain ⟨_, _, heq⟩ | ⟨_, he⟩ := validateSettingsList_cases x.1 x.2 xs
    · exact ih (heq ▸ h)
    · cases he.symm.trans h; exact allowed_h2 _ _ _ _

/-- a list that `update_settings` has validated is appended completely: `Settings.update` cannot stop half-way -/
theorem update_of_validated (s : Settings) (items : List (Int × Int)) (h : validateSettingsList items = .ok ()) :
    Settings.update s items =
      (.ok (items.foldl (fun s kv => Settings.append s kv.1 kv.2) s), items.foldl (fun s kv => Settings.append s kv.1 kv.2) s) := by
  induction items generalizing s with
  | nil => rfl
  | cons kv rest ih =>
    obtain ⟨hkv, _, hrest⟩ := validateSettingsList_cons kv.1 kv.2 rest h
    unfold Settings.update Settings.setItem
    rw [hkv]
    exact ih _ hrest

theorem settings_fits (items : List (Int × Int)) (h : validateSettingsList items = .ok ()) (mo : Int)
    (hm : 6 * (items.length : Int) ≤ mo) : (Frame.settings false items).Fits mo :=
  .of_ser (settings_serialize items (validateSettingsList_ok items h)) (by
    show ((6 * items.length : Nat) : Int) ≤ mo
    omega)

/-! ### the public calls -/

-- the unifier must not unfold `_prepare_for_sending` on concrete frames (it would evaluate their serialisation)
attribute [local irreducible] prepareForSending

/-- what C29 asks of a public call: it returns, or raises an allowed exception having written nothing -/
abbrev ApiOk {α : Type} (m : CM α) (c : Conn) : Prop :=
  wp m (fun _ _ => True) (fun e c' => Allowed e ∧ OS c' = OS c) c

theorem api_getStreamById {Q : Unit → Conn → Prop} (sid : Int) (c0 c : Conn) (hos : OS c = OS c0)
    (hq : hasStream c sid = true → Q () c) : wp (getStreamById sid) Q (fun e c' => Allowed e ∧ OS c' = OS c0) c :=
  getStreamById_cases sid c hq fun _ hal => ⟨hal, hos⟩

theorem api_afterConnInput {α : Type} (i : ConnectionInputs) (m : CM α) (c : Conn)
    (hm : ∀ c1, OS c1 = OS c → c1.maxOutFrame = c.maxOutFrame →
      wp m (fun _ _ => True) (fun e c' => Allowed e ∧ OS c' = OS c) c1) :
    wp (connInput i) (fun _ => wp m (fun _ _ => True) (fun e c' => Allowed e ∧ OS c' = OS c))
      (fun e c' => Allowed e ∧ OS c' = OS c) c := by
  rw [wp_connInput_eq]
  split
  · exact hm _ rfl rfl
  · exact ⟨allowed_pErr, rfl⟩

theorem api_streamFrames (g : Int → Frame) (sid : Int) (m : M Stream (List Frame)) (c0 c : Conn)
    (hos : OS c = OS c0) (hm : SAllowed (fun fs => ∃ s, fs = [g s]) m) (hfit : ∀ s, (g s).Fits c.maxOutFrame) :
    wp (do getStreamById sid; let frames ← withStream sid m; prepareForSending frames)
      (fun _ _ => True) (fun e c' => Allowed e ∧ OS c' = OS c0) c := by
  wps
  refine api_getStreamById sid c0 c hos fun hex => ?_
  wps
  apply os_withStream_of_allowed _ _ _ _ _ hos hex hm
  · rintro _ c2 ⟨s, rfl⟩ _ hmax2
    exact wp_prepare_one _ c2 (hmax2 ▸ hfit s)
  · intro e c2 ha hos2; exact ⟨ha, hos2⟩

theorem api_ping (d : Bytes) (c : Conn) (hm : 16384 ≤ c.maxOutFrame) : ApiOk (ping d) c := by
  unfold ApiOk ping
  wps
  refine ite_intro (fun _ => ⟨allowed_value, trivial⟩) fun hlen => api_afterConnInput _ _ c fun c1 _ hmax1 => ?_
  exact wp_prepare_one _ _ (.of_ser (ping_serialize false d (by simpa using hlen)) (by omega))

theorem api_resetStream (sid code : Int) (c : Conn) (hm : 16384 ≤ c.maxOutFrame) : ApiOk (resetStream sid code) c := by
  unfold ApiOk resetStream
  wps
  exact ite_intro (fun _ => ⟨allowed_value, trivial⟩) fun hcode => api_afterConnInput _ _ c fun c1 hos1 hmax1 =>
    api_streamFrames _ sid _ c c1 hos1 (sallowed_input .SEND_RST_STREAM (Frame.rstStream · code)) fun s =>
      rst_fits s code _ (by simp at hcode; omega) (by omega)

theorem api_endStream (sid : Int) (c : Conn) (hm : 16384 ≤ c.maxOutFrame) : ApiOk (endStream sid) c := by
  unfold ApiOk endStream
  wps
  exact api_afterConnInput _ _ c fun c1 hos1 hmax1 =>
    api_streamFrames _ sid _ c c1 hos1 (sallowed_input .SEND_END_STREAM (Frame.data · [] true none)) fun s =>
      data_fit s [] true none _ (fun _ hp => nomatch hp) (by simp [fclOf]; omega)

theorem api_incrementWindow (incr : Int) (sid : Option Int) (c : Conn) (hm : 16384 ≤ c.maxOutFrame) :
    ApiOk (incrementFlowControlWindow incr sid) c := by
  unfold ApiOk incrementFlowControlWindow
  wps
  refine ite_intro (fun _ => ⟨allowed_value, trivial⟩) fun _ => api_afterConnInput _ _ c fun c1 hos1 hmax1 => ?_
  have fit : ∀ s, (Frame.windowUpdate s incr).Fits c1.maxOutFrame := fun s => wu_fits s incr _ (by omega)
  cases sid with
  | none =>
    simp only
    wps
    rw [wp_onConnWM]
    cases hw : WindowManager.window_opened c1.inWM incr with
    | mk r w =>
      cases r with
      | ok v => simp only; wps; exact wp_prepare_one _ _ (fit 0)
      | error e => rw [wm_opened_err _ _ _ _ hw]; exact ⟨allowed_mkExc _ _, hos1⟩
  | some sid =>
    exact api_streamFrames _ sid _ c c1 hos1 (sallowed_incWindow incr) fit

theorem api_closeConnection (code : Int) (extra : Option Bytes) (last : Option Int) (c : Conn) :
    ApiOk (closeConnection code extra last) c := by
  unfold ApiOk closeConnection
  wps
  refine ite_intro (fun _ => ⟨allowed_value, trivial⟩) fun hcode => ite_intro (fun _ => ⟨allowed_value, trivial⟩) fun _ =>
    ite_intro (fun _ => ⟨allowed_mkExc _ _, trivial⟩) fun hsize => api_afterConnInput _ _ c fun c1 _ hmax1 => ?_
  wps
  obtain ⟨b, hb, hl⟩ := goaway_serialize (last.getD c1.highestIn) code (extra.getD []) (by simp at hcode; omega)
  refine wp_prepare_one _ _ ⟨⟨b, hb⟩, ?_⟩
  rw [hl, hmax1]
  simp at hsize ⊢
  omega

theorem updateSettings_spec (items : List (Int × Int)) (c : Conn) :
    wp (updateSettings items)
      (fun _ c' => ∃ t o, c' = { c with
        cstate := t, localSettings := items.foldl (fun s kv => Settings.append s kv.1 kv.2) c.localSettings,
        out := o, sent := c.sent ++ [Frame.settings false items] })
      (fun e c' => Allowed e ∧ c' = { c with cstate := c'.cstate }) c := by
  unfold updateSettings
  wps
  cases hv : validateSettingsList items with
  | error e => exact ⟨validateSettingsList_err _ _ hv, trivial⟩
  | ok u =>
    simp only
    refine ite_intro (fun _ => ⟨allowed_mkExc _ _, trivial⟩) fun hsize => ?_
    rw [wp_connInput_eq]
    split
    next t _ =>
      wps
      rw [update_of_validated _ _ hv]
      wps
      exact wp_prepare_fits _ _ (List.forall_mem_singleton.mpr (settings_fits items hv _ (by simpa using hsize)))
        fun o => ⟨t, o, rfl⟩
    · exact ⟨allowed_pErr, rfl⟩

theorem api_updateSettings (items : List (Int × Int)) (c : Conn) : ApiOk (updateSettings items) c :=
  wp_mono (updateSettings_spec items c) (fun _ _ _ => trivial) fun e c' h => ⟨h.1, by rw [h.2]; rfl⟩

theorem api_altsvc (field : Bytes) (origin : Option Bytes) (sid : Option Int) (c : Conn) :
    ApiOk (advertiseAlternativeService field origin sid) c := by
  unfold ApiOk advertiseAlternativeService
  wps
  refine ite_intro (fun _ => ⟨allowed_value, trivial⟩) fun _ => ite_intro (fun _ => ⟨allowed_value, trivial⟩) fun _ =>
    ite_intro (fun _ => ⟨allowed_pErr, trivial⟩) fun _ => ite_intro (fun _ => ⟨allowed_value, trivial⟩) fun horig =>
    ite_intro (fun _ => ⟨allowed_mkExc _ _, trivial⟩) fun hsize => api_afterConnInput _ _ c fun c1 hos1 hmax1 => ?_
  cases origin with
  | some o =>
    simp only
    -- `rw`, not `wps`: `simp` takes `wp_pure` as a definitional step, and to check that step the kernel (which
    -- ignores `irreducible`) would evaluate `_prepare_for_sending` on this frame
    rw [wp_bind, wp_pure]
    exact wp_prepare_one _ _ (altsvc_fits 0 o field _ (by simpa using horig) (by simp at hsize; omega))
  | none =>
    cases sid with
    | none => exact ⟨allowed_value, hos1⟩
    | some sid =>
      simp only
      exact api_streamFrames _ sid _ c c1 hos1 (sallowed_input .SEND_ALTERNATIVE_SERVICE (Frame.altsvc · [] field))
        fun s => altsvc_fits s [] field _ (by simp) (by simp at hsize ⊢; omega)

theorem api_prioritize (sid : Int) (w d : Option Int) (e : Option Bool) (c : Conn) (hm : 16384 ≤ c.maxOutFrame) :
    ApiOk (prioritize sid w d e) c := by
  unfold ApiOk prioritize
  wps
  refine ite_intro (fun _ => ⟨allowed_mkExc _ _, trivial⟩) fun _ => api_afterConnInput _ _ c fun c1 hos1 hmax1 => ?_
  wps
  cases hp : framePriority sid w d e with
  | error x => exact ⟨framePriority_err _ _ _ _ _ hp, hos1⟩
  | ok p =>
    have hpr := framePriority_ok _ _ _ _ _ hp
    exact wp_prepare_one _ _ (priority_fits sid p _ hpr.1 hpr.2 (by omega))

theorem api_ackCredit (present : Bool) (size sid : Int) (c : Conn) (hm : 16384 ≤ c.maxOutFrame)
    (hpres : present = true → hasStream c sid = true) : ApiOk (ackCredit present size sid) c := by
  unfold ApiOk ackCredit
  wps
  obtain ⟨v, w, hpb⟩ := wm_process_ok c.inWM size
  rw [wp_onConnWM, hpb]
  simp only
  wps
  -- every frame written is a WINDOW_UPDATE (the connection's credit, then the stream's), so every frame fits
  have hwu : ∀ f ∈ (match v with | some n => if n != 0 then [Frame.windowUpdate 0 n] else [] | none => []),
      ∃ s n, f = Frame.windowUpdate s n := by
    intro f hf
    cases v with
    | none => simp at hf
    | some n => simp only at hf; split at hf <;> simp at hf; exact ⟨_, _, hf⟩
  have nil : ∀ f ∈ ([] : List Frame), ∃ s n, f = Frame.windowUpdate s n := fun _ h => nomatch h
  have hm4 : 4 ≤ c.maxOutFrame := by omega
  split
  · rename_i hp
    split
    · wps
      split
      · apply os_withStream_of_allowed _ _ _ { c with inWM := w } _ rfl (hpres hp) (sallowed_ackData size)
        · intro more c2 hr _ hmax2
          exact wp_prepare_wus _ _ (hmax2 ▸ hm4) (List.forall_mem_append.mpr ⟨hwu, hr⟩)
        · intro e c2 ha hos2; exact ⟨ha, hos2⟩
      · exact wp_prepare_wus _ _ hm4 (List.forall_mem_append.mpr ⟨hwu, nil⟩)
    · exact wp_prepare_wus _ _ hm4 (List.forall_mem_append.mpr ⟨hwu, nil⟩)
  · exact wp_prepare_wus _ _ hm4 (List.forall_mem_append.mpr ⟨hwu, nil⟩)

theorem api_ackData (size sid : Int) (c : Conn) (hm : 16384 ≤ c.maxOutFrame) : ApiOk (acknowledgeReceivedData size sid) c := by
  unfold ApiOk acknowledgeReceivedData
  wps
  refine ite_intro (fun _ => ⟨allowed_value, trivial⟩) fun _ => ite_intro (fun _ => ⟨allowed_value, trivial⟩) fun _ => ?_
  have fin : ∀ present, (present = true → hasStream c sid = true) →
      (if (c.cstate == ConnectionState.CLOSED) = true then True
       else wp (ackCredit present size sid) (fun _ _ => True) (fun e c' => Allowed e ∧ OS c' = OS c) c) :=
    fun present hpres => ite_intro (fun _ => trivial) fun _ => api_ackCredit present size sid c hm hpres
  rw [wp_getStreamById_lookup]
  split
  · rename_i hex
    wps
    exact fin true fun _ => hex
  · -- whether or not the handler catches what the lookup raised, the call is fine
    split
    · exact fin false (fun h => nomatch h)
    · exact ⟨allowed_lookupExc _ _, rfl⟩

/-- **`send_data`** after the padding check: a call that returns has appended one DATA frame with the given payload,
    flags and padding to the history (on which stream id, and what went to the output buffer, is not stated) and charged
    its flow-controlled length, which both windows admitted, to the connection window; a call that raises has written
    nothing and charged nothing -/
theorem sendDataCore_spec (sid : Int) (data : Bytes) (es : Bool) (pad : Option Int) (c : Conn)
    (hp : ∀ p, pad = some p → 0 ≤ p ∧ p ≤ 255) :
    wp (sendDataCore sid data es pad (fclOf data pad))
      (fun _ c' => (∃ fsid, c'.sent = c.sent ++ [Frame.data fsid data es pad]) ∧
          fclOf data pad ≤ c.outWin ∧ c'.outWin = c.outWin - fclOf data pad ∧ c'.inWM = c.inWM ∧
          (∀ st, c.streams.lookup sid = some st → fclOf data pad ≤ st.outWin))
      (fun e c' => Allowed e ∧ OS c' = OS c ∧ c'.outWin = c.outWin ∧ c'.inWM = c.inWM) c := by
  unfold sendDataCore localFlowControlWindow
  wps
  rw [wp_getStreamById_lookup]
  refine ite_intro (fun hex => ?_) fun _ => ⟨allowed_lookupExc _ _, rfl, rfl, rfl⟩
  wps
  obtain ⟨st, hl⟩ := lookup_of_hasStream c sid hex
  unfold lookupStream
  rw [hl]
  simp only
  wps
  refine ite_intro (fun _ => ⟨allowed_mkExc _ _, trivial, trivial, trivial⟩) fun hwin =>
    ite_intro (fun _ => ⟨allowed_mkExc _ _, trivial, trivial, trivial⟩) fun hmax => ?_
  obtain ⟨hcw, hsw⟩ := Int.le_min.mp (Int.not_lt.mp hwin)
  -- the stream's window is read before `connInput` and used after it: the state in between has to be the exact one
  rw [wp_connInput_eq]
  split
  · wps
    rw [wp_withStream]
    simp only [hl]
    refine wp_mono (stream_sendData_spec data es pad st _ (fclOf_eq data pad)) ?_ ?_
    · rintro _ st' ⟨rfl, -⟩
      wps
      refine wp_prepare_fits _ _ (List.forall_mem_singleton.mpr (data_fit _ data es pad _ hp (Int.not_lt.mp hmax))) ?_
      intro o
      wps
      refine ite_intro (fun (h : c.outWin - fclOf data pad < 0) => by omega) fun _ =>
        ⟨⟨_, rfl⟩, hcw, rfl, rfl, fun st2 hst2 => ?_⟩
      cases hst2
      exact hsw
    · intro e st' ha
      exact ⟨ha.resolve_right (Int.not_lt.mpr (Int.sub_nonneg_of_le hsw)), rfl, rfl, rfl⟩
  · exact ⟨allowed_pErr, rfl, rfl, rfl⟩

theorem api_sendDataCore (sid : Int) (data : Bytes) (es : Bool) (pad : Option Int) (c : Conn)
    (hp : ∀ p, pad = some p → 0 ≤ p ∧ p ≤ 255) : ApiOk (sendDataCore sid data es pad (fclOf data pad)) c :=
  wp_mono (sendDataCore_spec sid data es pad c hp) (fun _ _ _ => trivial) fun _ _ h => ⟨h.1, h.2.1⟩

/-- **`send_data`** is the padding check in front of `sendDataCore` at the flow-controlled length -/
theorem wp_sendData_rule {Q : Unit → Conn → Prop} {E : Exc → Conn → Prop} (sid : Int) (data : Bytes) (es : Bool)
    (pad : Option Int) (c : Conn)
    (hcore : (∀ p, pad = some p → 0 ≤ p ∧ p ≤ 255) → wp (sendDataCore sid data es pad (fclOf data pad)) Q E c)
    (hbad : ∀ p, pad = some p → p < 0 ∨ 255 < p → E (.py .ValueError) c) : wp (sendData sid data es pad) Q E c := by
  cases pad with
  | none => exact hcore nofun
  | some p =>
    unfold sendData
    by_cases hp : (decide (p < 0) || decide (p > 255)) = true
    · simp only [hp, if_true]; exact hbad p rfl (by simpa using hp)
    · simp only [hp, Bool.false_eq_true, if_false]
      have := hcore fun q hq => by injection hq with hq; subst hq; simp at hp; omega
      simpa only [fclOf, Int.add_assoc] using this

theorem api_sendData (sid : Int) (data : Bytes) (es : Bool) (pad : Option Int) (c : Conn) :
    ApiOk (sendData sid data es pad) c :=
  wp_sendData_rule sid data es pad c (api_sendDataCore sid data es pad c) fun _ _ _ => ⟨allowed_value, rfl⟩

/-! ### the read-only queries and the buffer calls -/

theorem api_lookup {α : Type} (sid : Int) (f : Conn → Stream → α) (c : Conn) :
    ApiOk (do
      getStreamById sid
      let c ← getS
      match lookupStream c sid with
      | some st => pure (f c st)
      | none => raise (.py .KeyError)) c := by
  unfold ApiOk
  wps
  refine api_getStreamById sid c c rfl fun hs => ?_
  wps
  obtain ⟨st, hst⟩ := lookup_of_hasStream c sid hs
  unfold lookupStream
  rw [hst]; trivial

theorem api_localWindow (sid : Int) (c : Conn) : ApiOk (localFlowControlWindow sid) c :=
  api_lookup sid (fun c st => min c.outWin st.outWin) c

theorem api_remoteWindow (sid : Int) (c : Conn) : ApiOk (remoteFlowControlWindow sid) c :=
  api_lookup sid (fun c st => min c.inWM.current_window_size st.inWM.current_window_size) c

theorem api_nextStreamId (c : Conn) : ApiOk getNextAvailableStreamId c := by
  unfold ApiOk getNextAvailableStreamId
  wps
  exact ite_intro (fun _ => ⟨allowed_mkExc _ _, trivial⟩) fun _ => trivial

theorem api_openStreams (r : Conn → Int) (c : Conn) : ApiOk (do let c ← getS; openStreams (r c)) c := by
  unfold ApiOk
  wps
  exact trivial

theorem api_openOut (c : Conn) : ApiOk openOutboundStreams c := api_openStreams _ c

theorem api_openIn (c : Conn) : ApiOk openInboundStreams c := api_openStreams _ c

theorem api_dataToSend (n : Option Int) (c : Conn) : ApiOk (dataToSend n) c := by
  unfold ApiOk dataToSend
  wps
  cases n <;> (wps; try trivial)

theorem api_clearOut (c : Conn) : ApiOk clearOutboundDataBuffer c := by
  unfold ApiOk clearOutboundDataBuffer
  wps

/-! ### the stream lookup: closed-and-forgotten versus never used -/

abbrev Refused {α : Type} (m : CM α) (c : Conn) (sid : Int) : Prop :=
  wp m (fun _ _ => False) (fun e c' => e = lookupExc c sid ∧ OS c' = OS c) c

theorem refused_getStreamById {Q : Unit → Conn → Prop} (c : Conn) (sid : Int) (h : hasStream c sid = false) (c0 : Conn)
    (hx : lookupExc c sid = lookupExc c0 sid) (ho : OS c = OS c0) :
    wp (getStreamById sid) Q (fun e c' => e = lookupExc c0 sid ∧ OS c' = OS c0) c := by
  rw [wp_getStreamById_lookup, if_neg (by simp [h]), hx]
  exact ⟨rfl, ho⟩

end H2
