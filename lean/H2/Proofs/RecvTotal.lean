/-
  Receive path, top: what the frame iterator yields, and the specification of `receive_data` under the invariant, as
  an instance of `receiveData_rule`: dispatch, `_receive_frame` and `receive_data` keep the invariant, raise only
  protocol errors, write small non-GOAWAY replies, and a failing call ends with exactly one GOAWAY.
-/
import H2.Proofs.RecvHeaders
import H2.Proofs.RecvRule
import H2.Proofs.KeepsConn
namespace H2
open H2.Gen H2.Conn

/-- what the frame buffer hands to the dispatcher: a PING payload has exactly 8 bytes, a WINDOW_UPDATE increment is
    at least 1 (hyperframe rejects the others when it parses the body) -/
def RFrameOk (rf : RFrame) : Prop :=
  (∀ a p, rf.frame = .ping a p → p.length = 8) ∧ (∀ sid n, rf.frame = .windowUpdate sid n → 1 ≤ n)

theorem hspec_dispatch (rf : RFrame) (c : Conn) (hwf : WF c) (hrf : RFrameOk rf) : wp (dispatch rf) HQ CE c := by
  unfold dispatch
  split
  · exact hspec_headers _ _ _ _ c hwf
  · exact hspec_pushPromise _ _ _ c hwf
  · exact hspec_settings _ _ c hwf
  · exact hspec_data _ _ _ _ c hwf
  · exact hspec_windowUpdate _ _ c hwf
  · rename_i ack payload heq; exact hspec_ping _ _ c hwf (hrf.1 _ _ heq)
  · exact hspec_rstStream _ _ c hwf
  · exact hspec_priority _ _ c hwf
  · exact hspec_goaway _ _ _ c hwf
  · exact hspec_nakedContinuation _ c hwf
  · exact hspec_altsvc _ _ _ c hwf
  · wps; exact ⟨hwf, framesOk_nil⟩

/-- what the frame iterator may raise: a protocol error, or hyperframe's InvalidPaddingError, which the `except` clauses
    of `receive_data` turn into a ProtocolError (`handleRecvError_nextErr`) -/
def NextErr (e : Exc) : Prop := GoodExc e ∨ e = .py (.Other "InvalidPaddingError")

/-- a check in front of a parser: what holds of every result of the rest, given that the check passed, holds of
    every result -/
theorem guard_ok {ε α} {c : Prop} [Decidable c] {e : ε} {x : Except ε α} {P : α → Prop}
    (h : ¬ c → ∀ a, x = .ok a → P a) : ∀ a, (if c then .error e else x) = .ok a → P a := by
  intro a ha
  split at ha
  · cases ha
  · exact h ‹_› a ha

/-- only type 6 yields a PING, behind its length check, and only type 8 a WINDOW_UPDATE, behind its range check -/
theorem parseBody_ok (h : FrameHeader) (d : Bytes) (rf : RFrame) (hp : parseBody h d = .ok rf) : RFrameOk rf := by
  revert rf
  unfold parseBody
  dsimp only
  split
  -- `split` numbers the alternatives of `match h.type` from 1: `h_7` is type 6, PING, and `h_9` type 8, WINDOW_UPDATE
  case h_7 =>
    refine guard_ok fun hlen => ?_
    rintro _ ⟨⟩
    exact ⟨fun a p hf => by cases hf; simpa using hlen, nofun⟩
  case h_9 =>
    refine guard_ok fun _ => guard_ok fun hrange => ?_
    rintro _ ⟨⟩
    refine ⟨nofun, fun sid n hf => ?_⟩
    cases hf
    simp only [Bool.or_eq_true, decide_eq_true_eq, not_or] at hrange
    omega
  all_goals
    repeat refine guard_ok fun _ => ?_
    rintro _ ⟨⟩
    exact ⟨nofun, nofun⟩

theorem plain_good {e : Exc} (h : Plain e) : GoodExc e := h.1

theorem stepHeaderBuffer_ok (hb : List Frame) (f : RFrame) (hf : RFrameOk f) (hh : HbOk hb) :
    (∀ g, (FrameBuffer.stepHeaderBuffer hb f).1 = .ok (some g) → RFrameOk g) ∧
    (∀ e, (FrameBuffer.stepHeaderBuffer hb f).1 = .error e → GoodExc e) ∧
    HbOk (FrameBuffer.stepHeaderBuffer hb f).2 := by
  rcases stepHeaderBuffer_cases hb f with h | ⟨_, h⟩ | ⟨_, ho, h⟩ | ⟨hne, _, h⟩ | ⟨first, rest, g, rfl, h, hg⟩ <;> rw [h]
  · exact ⟨by simp, fun e he => by cases he; exact goodExc_mkExc _ _ (by decide), hh⟩
  · exact ⟨fun g hg => by cases hg; exact hf, by simp, trivial⟩
  · exact ⟨by simp, by simp, ho⟩
  · refine ⟨by simp, by simp, ?_⟩
    cases hb with
    | nil => exact absurd rfl hne
    | cons first rest => cases first <;> exact hh
  · refine ⟨fun g' hg' => ?_, by simp, trivial⟩
    cases hg'
    -- the completed block is the frame that opened it (HEADERS or PUSH_PROMISE by `hh`) with a new payload
    rcases hg with rfl | ⟨_, _, _, _, _, rfl⟩ | ⟨_, _, _, _, rfl⟩
    · cases g <;> first | exact hh.elim | exact ⟨nofun, nofun⟩
    · exact ⟨nofun, nofun⟩
    · exact ⟨nofun, nofun⟩

theorem peel_err {d : Bytes} {m : Int} {e : Exc} (h : FrameBuffer.peel d m = .error e) : NextErr e := by
  unfold FrameBuffer.peel at h
  split at h
  · cases h
  split at h
  · cases h; exact .inl (goodExc_mkExc _ _ (by decide))
  split at h
  · cases h
  split at h
  · cases h; exact .inl (goodExc_mkExc _ _ (by decide))
  split at h
  · cases h; exact .inl (goodExc_mkExc _ _ (by decide))
  split at h <;> cases h
  · exact .inl (goodExc_mkExc _ _ (by decide))
  · exact .inl (goodExc_mkExc _ _ (by decide))
  · exact .inr rfl

/-- one step of `__next__` (`next1_eq`): `peel` refuses, or `parseBody` has accepted the frame it hands to
    `_update_header_buffer`, which decides what comes out and is all that happens to the backlog -/
theorem next1_ok (fb : FrameBuffer) (hh : HbOk fb.headersBuffer) :
    (∀ rf fb', FrameBuffer.next1 fb = (.ok (.frame rf), fb') → RFrameOk rf) ∧
    (∀ e fb', FrameBuffer.next1 fb = (.error e, fb') → NextErr e) ∧
    HbOk (FrameBuffer.next1 fb).2.headersBuffer := by
  rw [FrameBuffer.next1_eq]
  cases hp : FrameBuffer.peel fb.data fb.maxFrameSize with
  | error e => exact ⟨fun _ _ he => (by cases he), fun _ _ he => (by cases he; exact peel_err hp), hh⟩
  | ok o =>
    cases o with
    | none => exact ⟨fun _ _ he => (by cases he), fun _ _ he => (by cases he), hh⟩
    | some fk =>
      obtain ⟨f, k⟩ := fk
      obtain ⟨_, hd, hpb⟩ := FrameBuffer.peel_frame hp
      have hs := stepHeaderBuffer_ok fb.headersBuffer f (parseBody_ok _ _ _ hpb) hh
      dsimp only
      generalize (FrameBuffer.stepHeaderBuffer fb.headersBuffer f).1 = r at hs
      refine ⟨fun rf fb' he => ?_, fun e fb' he => ?_, hs.2.2⟩ <;> rcases r with _ | _ | _ <;> cases he
      · exact hs.1 _ rfl
      · exact .inl (hs.2.1 _ rfl)

theorem yields_ok : Yields HbOk RFrameOk NextErr := .of_next1 next1_ok

theorem next_ok (fuel : Nat) (fb : FrameBuffer) (hh : HbOk fb.headersBuffer) :
    (∀ rf fb', FrameBuffer.next fuel fb = (.ok (some rf), fb') → RFrameOk rf) ∧
    (∀ e fb', FrameBuffer.next fuel fb = (.error e, fb') → NextErr e) ∧
    HbOk (FrameBuffer.next fuel fb).2.headersBuffer :=
  yields_ok fuel fb hh

/-- no frame handler writes a frame: they hand their frames to `_receive_frame` -/
theorem prims_sent (v : List Frame) : RecvPrims (fun c => c.sent = v) := {}

/-- from `c` to `c'` only small non-GOAWAY frames (SETTINGS ACK, PING ACK, RST_STREAM, WINDOW_UPDATE) were written -/
def Emitted (c c' : Conn) : Prop := ∃ fs, c'.sent = c.sent ++ fs ∧ FramesOk fs

theorem Emitted.refl (c : Conn) : Emitted c c := ⟨[], by simp, framesOk_nil⟩
theorem Emitted.trans {a b c : Conn} (h1 : Emitted a b) (h2 : Emitted b c) : Emitted a c := by
  obtain ⟨f1, e1, o1⟩ := h1
  obtain ⟨f2, e2, o2⟩ := h2
  exact ⟨f1 ++ f2, by rw [e2, e1, List.append_assoc], framesOk_append o1 o2⟩
theorem Emitted.of_eq {a b : Conn} (h : b.sent = a.sent) : Emitted a b := ⟨[], by simp [h], framesOk_nil⟩

theorem frameErrorHandler_spec (e : Exc) (c : Conn) (hwf : WF c) (hg : GoodExc e) :
    wp (frameErrorHandler e) (fun _ c' => WF c' ∧ Emitted c c') (fun e' c' => GoodExc e' ∧ WFb c' ∧ Emitted c c') c := by
  cases e with
  | py k => exact hg.elim
  | h2 cls code esid evs =>
    refine wp_frameErrorHandler _ _ _ _ _ ?_ ⟨hg, hwf.wfb, .refl _⟩ ⟨goodExc_streamClosed _ _, hwf.wfb, .refl _⟩
    intro k evs' hk
    have hk' : SmallFrame (Frame.rstStream (esid.getD 0) k) := by
      rcases hk with rfl | rfl
      · exact goodExc_code hg
      · exact ⟨by decide, by decide⟩
    apply wp_connInput_live _ _ hwf (by unfold notGoaway; decide)
    · intro t hl
      apply wp_prepareForSending _ _ hl.mof (framesOk_one hk')
      intro o; exact ⟨hl.wf.congr, _, rfl, framesOk_one hk'⟩
    · intro h; exact ⟨goodExc_pErr, h.wfb, .refl _⟩

theorem receiveFrame_spec (rf : RFrame) (c : Conn) (hwf : WF c) (hrf : RFrameOk rf) :
    wp (receiveFrame rf) (fun _ c' => WF c' ∧ Emitted c c') (fun e c' => GoodExc e ∧ WFb c' ∧ Emitted c c') c := by
  rw [wp_receiveFrame]
  refine wp_mono (wp_and (hspec_dispatch rf c hwf hrf)
    (((prims_sent c.sent).dispatch (hout := fun _ h => h) rf (hw := fun _ _ _ _ _ _ h => h)).run c rfl)) ?_ ?_
  · rintro fe c1 ⟨hq, hsent⟩
    apply wp_prepareForSending _ _ hq.wf.wfb.mof hq.frames
    intro o; exact ⟨hq.wf.congr, fe.1, by simp [hsent], hq.frames⟩
  · rintro e c1 ⟨hce, hsent⟩
    split
    · rename_i hc
      exact wp_mono (frameErrorHandler_spec e c1 (hce.wf (caught_of_pred hc)) hce.good)
        (fun _ _ h2 => ⟨h2.1, (Emitted.of_eq hsent).trans h2.2⟩)
        (fun _ _ h2 => ⟨h2.1, h2.2.1, (Emitted.of_eq hsent).trans h2.2.2⟩)
    · exact ⟨hce.good, hce.wfb, .of_eq hsent⟩

theorem wp_terminateConnection_eq (k : Int) (c : Conn) (hm : 16384 ≤ c.maxOutFrame) (hk : 0 ≤ k ∧ k < 4294967296) :
    ∃ b, (Frame.goaway c.highestIn k []).serialize? = some b ∧
      ∀ (Q : Unit → Conn → Prop) (E : Exc → Conn → Prop), wp (terminateConnection k) Q E c =
        Q () { c with cstate := .CLOSED, out := c.out ++ b, sent := c.sent ++ [Frame.goaway c.highestIn k []] } := by
  obtain ⟨b, hb, hlen⟩ := goaway_serialize c.highestIn k [] hk
  refine ⟨b, hb, fun Q E => ?_⟩
  rw [wp_terminateConnection, wp_connInput_ok _ _ _ (conn_goaway_closes _),
    wp_prepare_single (Frame.goaway c.highestIn k []) _ b hb (by rw [hlen]; simp; omega)]

/-- the GOAWAY that ends a failing `receive_data` that started writing at `c`: it carries the exception's error code
    and the highest stream id the peer has opened, and is the last thing in the output buffer; the connection is closed -/
def Goaway1 (c : Conn) (e : Exc) (c' : Conn) : Prop :=
  ∃ k cls sid evs, c'.sent = c.sent ++ [Frame.goaway c'.highestIn k []] ∧
    e = .h2 cls (some k) sid evs ∧ cls.isSub .ProtocolError = true ∧ 0 ≤ k ∧ k < 4294967296 ∧ c'.cstate = .CLOSED ∧
    ∃ pre b, (Frame.goaway c'.highestIn k []).serialize? = some b ∧ c'.out = pre ++ b

/-- for the errors the frame loop raises under the invariant, the `except` clauses of `receive_data` are: one GOAWAY
    with the error's code, and a ProtocolError (the error itself, or in place of hyperframe's padding error) -/
theorem handleRecvError_nextErr {e : Exc} (he : NextErr e) :
    ∃ k cls sid evs, cls.isSub .ProtocolError = true ∧ 0 ≤ k ∧ k < 4294967296 ∧
      handleRecvError e = (do terminateConnection k; raise (.h2 cls (some k) sid evs)) := by
  rcases he with he | rfl
  · cases e with
    | py k => exact he.elim
    | h2 cls code sid evs =>
      obtain ⟨hsub, k, rfl, h0, h1⟩ := he
      exact ⟨k, cls, sid, evs, hsub, h0, h1, by unfold handleRecvError; simp [hsub]⟩
  · exact ⟨ErrorCodes.PROTOCOL_ERROR, .ProtocolError, none, [], by decide, by decide, by decide, rfl⟩

theorem handleRecvError_spec (e : Exc) (c : Conn) (he : NextErr e) (hw : WFb c) :
    wp (handleRecvError e) (fun _ _ => False) (fun e' c' => GoodExc e' ∧ WF c' ∧ Goaway1 c e' c') c := by
  obtain ⟨k, cls, sid, evs, hsub, h0, h1, heq⟩ := handleRecvError_nextErr he
  obtain ⟨b, hb, ht⟩ := wp_terminateConnection_eq k c hw.mof ⟨h0, h1⟩
  rw [heq, wp_bind, ht]
  exact ⟨⟨hsub, k, rfl, h0, h1⟩, wf_of_closed hw.congr rfl,
    k, cls, sid, evs, rfl, rfl, hsub, h0, h1, rfl, c.out, b, hb, rfl⟩

/-- **`receive_data` under the invariant**, for every byte string: it returns with the invariant and small non-GOAWAY
    frames written; or refuses the client preface and changes nothing; or raises a ProtocolError with the invariant,
    the connection closed, and such frames and then one GOAWAY written -/
theorem receiveData_spec (d : Bytes) (c : Conn) (hwf : WF c) (hh : HbOk c.fb.headersBuffer) :
    wp (receiveData d) (fun _ c' => (WF c' ∧ Emitted c c') ∧ HbOk c'.fb.headersBuffer)
      (fun e c' => (FrameBuffer.addData c.fb d = .error e ∧ c' = c) ∨
        ((GoodExc e ∧ WF c' ∧ ∃ c1, Emitted c c1 ∧ Goaway1 c1 e c') ∧ HbOk c'.fb.headersBuffer)) c := by
  refine receiveData_rule (I := fun c' => WF c' ∧ Emitted c c') (F := fun e c' => NextErr e ∧ WFb c' ∧ Emitted c c')
    yields_ok (hI := fun _ _ h => ⟨h.1.congr, h.2⟩) (hF := fun _ _ _ h => ⟨h.1, h.2.1.congr, h.2.2⟩)
    (hE := fun _ _ _ h => ⟨h.1, h.2.1.congr, h.2.2⟩) (hnext := fun _ _ hn h => ⟨hn, h.1.wfb, h.2⟩) ?_ ?_ d c
    ⟨hwf, .refl c⟩ hh
  · intro rf c1 hrf h
    exact wp_mono (receiveFrame_spec rf c1 h.1 hrf) (fun _ _ h2 => ⟨h2.1, h.2.trans h2.2⟩)
      (fun _ _ h2 => ⟨Or.inl h2.1, h2.2.1, h.2.trans h2.2.2⟩)
  · intro e c1 h
    exact wp_mono (handleRecvError_spec e c1 h.1 h.2.1) (fun _ _ hf => hf.elim)
      (fun _ _ h2 => ⟨h2.1, h2.2.1, c1, h.2.2, h2.2.2⟩)

theorem receiveData_ok (d : Bytes) (c : Conn) (hwf : WF c) (hh : HbOk c.fb.headersBuffer) :
    match receiveData d c with
    | (.ok _, c') => WF c' ∧ HbOk c'.fb.headersBuffer
    | (.error e, c') => GoodExc e ∧ WF c' ∧ HbOk c'.fb.headersBuffer := by
  have hr := wp_result (receiveData_spec d c hwf hh)
  split <;> rename_i heq
  · have h := hr.1 _ _ heq
    exact ⟨h.1.1, h.2⟩
  · rcases hr.2 _ _ heq with ⟨ha, rfl⟩ | h
    · rw [FrameBuffer.addData_error _ _ _ ha]; exact ⟨goodExc_mkExc _ _ (by decide), hwf, hh⟩
    · exact ⟨h.1.1, h.1.2.1, h.2⟩

/-- the part of the state `C18_one_goaway` speaks about: the frames written so far and the highest stream id the peer
    has opened -/
def SK (c : Conn) : List Frame × Int := (c.sent, c.highestIn)

end H2
