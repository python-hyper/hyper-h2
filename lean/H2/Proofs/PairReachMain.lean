/-
  The two-machine system of one stream with ALL frame kinds and unbounded FIFO queues: no delivery is ever refused.

  `PairReach` proved it for the frames that change a stream's state (finite reachable set, checked by the kernel).
  The other five kinds (DATA, WINDOW_UPDATE, PUSH_PROMISE on the parent, 1xx HEADERS, ALTSVC) never change either
  machine (`k_neutral_send`, `R0_s3A`), so a configuration of the full system, with those frames erased from the queues,
  is a configuration of the reduced system; and such a frame, sent when the sender's machine allowed it, is delivered
  after exactly the state-changing frames that were in front of it — at a moment that the reduced system describes by a
  configuration with an empty queue in that direction and the sender's state as it was, where the receiver accepts it
  (`R0_s3A`, checked over the reachable set).  The invariant `Inv` packages this; every step of the full system keeps
  it and is fine (`inv_step`), which gives `full_never_refused`.
-/
import H2.Proofs.PairReach
import H2.Proofs.Splits
namespace H2
open H2.Gen
namespace PairFsm

/-- every step of the system with all nine frame kinds -/
def succsF (c : Cfg) : List (Cfg × Bool) := sendsOf (changing ++ neutrals) c ++ deliveries c

inductive ReachF : Cfg → Prop
  | init : ReachF init
  | step (c c' : Cfg) (ok : Bool) : ReachF c → (c', ok) ∈ succsF c → ReachF c'

/-- erase the frames that change nothing -/
def er (q : List Fr) : List Fr := q.filter Fr.changing
def erase (c : Cfg) : Cfg := { c with qa := er c.qa, qb := er c.qb }

theorem er_append (a b : List Fr) : er (a ++ b) = er a ++ er b := List.filter_append ..
theorem er_cons_changing (i : Fr) (q : List Fr) (h : i.changing = true) : er (i :: q) = i :: er q := by
  simp [er, h]
theorem er_cons_neutral (i : Fr) (q : List Fr) (h : i.changing = false) : er (i :: q) = er q := by
  simp [er, h]
theorem er_snoc_changing (q : List Fr) (i : Fr) (h : i.changing = true) : er (q ++ [i]) = er q ++ [i] := by
  rw [er_append, er_cons_changing i [] h]; rfl
theorem er_snoc_neutral (q : List Fr) (i : Fr) (h : i.changing = false) : er (q ++ [i]) = er q := by
  rw [er_append, er_cons_neutral i [] h]; exact List.append_nil _

def kNeutralSend (s : Shape) : Bool :=
  !Good s || neutrals.all fun i => [true, false].all fun b => !maySendAt s i b || (stepShape s i.send).2 == s
/-- sending a frame of a neutral kind leaves the sender's machine as it is -/
theorem k_neutral_send : ∀ s, kNeutralSend s = true :=
  forall_good_shape (fun s hg => by simp [kNeutralSend, hg]) (by decide +kernel)

theorem neutral_send_same (s : Shape) (i : Fr) (b : Bool) (hg : Good s = true) (hn : i.changing = false)
    (hm : maySendAt s i b = true) : (stepShape s i.send).2 = s := by
  have h := k_neutral_send s
  unfold kNeutralSend at h
  rw [hg] at h
  simp only [Bool.not_true, Bool.false_or] at h
  have h1 := List.all_eq_true.mp h i ((mem_neutrals i).mpr hn)
  have h2 := List.all_eq_true.mp h1 b (by cases b <;> simp)
  rw [hm] at h2
  simpa using h2

theorem r0_good (c : Cfg) (hc : c ∈ R0.elems) : Good c.sa = true ∧ Good c.sb = true := by
  have h := List.all_eq_true.mp R0_good c hc
  rw [Bool.and_eq_true] at h
  exact h

theorem s3a_use (f : Cfg) (hf : f ∈ R0.elems) (hq : f.qa = []) (i : Fr) (hn : i.changing = false)
    (hm : (maySendAt f.sa i true || maySendAt f.sa i false) = true) :
    fine f.sb i.recv = true ∧ (stepShape f.sb i.recv).2 = f.sb := by
  have h := List.all_eq_true.mp R0_s3A f hf
  rw [hq] at h
  simp only [List.isEmpty_nil, Bool.not_true, Bool.false_or] at h
  have h1 := List.all_eq_true.mp h i ((mem_neutrals i).mpr hn)
  rw [hm] at h1
  simp only [Bool.not_true, Bool.false_or, Bool.and_eq_true, beq_iff_eq] at h1
  exact h1

theorem maySendAt_idle_false (s : Shape) (i : Fr) (h : s.state = .IDLE) : maySendAt s i false = false := by
  unfold maySendAt; simp [h]

/-- a send that does not rest on the peer being idle may go whatever the peer does -/
theorem maySendAt_of_false (s : Shape) (i : Fr) (b : Bool) (h : maySendAt s i false = true) :
    maySendAt s i b = true := by
  unfold maySendAt at h ⊢
  cases hs : s.state != .IDLE <;> rw [hs] at h
  · simp at h
  · rw [Bool.true_or] at h ⊢
    exact h

theorem or_of_flag (s : Shape) (i : Fr) (b : Bool) (h : maySendAt s i b = true) :
    (maySendAt s i true || maySendAt s i false) = true := by
  cases b <;> simp [h]

/-- after a send the stream is not idle (no send input is RECV_ALTERNATIVE_SERVICE) -/
theorem send_leaves_idle (s : Shape) (i : Fr) : (stepShape s i.send).2.state ≠ .IDLE := fun h => by
  have := (stepShape_idle h).2
  cases i <;> cases this

theorem recv_stays_non_idle (s : Shape) (j : StreamInputs) (h : s.state ≠ .IDLE) : (stepShape s j).2.state ≠ .IDLE :=
  fun h' => h (stepShape_idle h').1

theorem split_cons {α : Type} (i : α) (rest pre post : List α) (j : α) (h : i :: rest = pre ++ j :: post) :
    (pre = [] ∧ j = i ∧ post = rest) ∨ (∃ pre', pre = i :: pre' ∧ rest = pre' ++ j :: post) := by
  cases pre with
  | nil => simp at h; exact Or.inl ⟨rfl, h.1.symm, h.2.symm⟩
  | cons a t => simp at h; exact Or.inr ⟨t, by rw [h.1], h.2⟩

structure Inv (c : Cfg) : Prop where
  /-- with the neutral frames erased, a reachable configuration of the reduced system -/
  red : erase c ∈ R0.elems
  /-- a neutral frame in flight from A: a reachable configuration of the reduced system with B as it is now, the
      state-changing frames in front of it still to be delivered, and A in a state in which it may send it -/
  na : ∀ pre i post, c.qa = pre ++ i :: post → i.changing = false →
    ∃ f ∈ R0.elems, f.sb = c.sb ∧ f.qa = er pre ∧ (maySendAt f.sa i true || maySendAt f.sa i false) = true
  nb : ∀ pre k post, c.qb = pre ++ k :: post → k.changing = false →
    ∃ f ∈ R0.elems, f.sa = c.sa ∧ f.qb = er pre ∧ (maySendAt f.sb k true || maySendAt f.sb k false) = true
  /-- an endpoint with frames in flight has left IDLE -/
  ia : c.qa ≠ [] → c.sa.state ≠ .IDLE
  ib : c.qb ≠ [] → c.sb.state ≠ .IDLE

theorem inv_init : Inv init :=
  ⟨r0_init, fun pre i post h => by simp [init] at h, fun pre k post h => by simp [init] at h,
   fun h => absurd rfl h, fun h => absurd rfl h⟩

/-- the flag "the peer is idle and has nothing in flight" is the same for a configuration and its erasure -/
theorem flagA_erase (c : Cfg) (h : Inv c) :
    (c.sb.state == .IDLE && (er c.qb).isEmpty) = (c.sb.state == .IDLE && c.qb.isEmpty) := by
  cases hq : c.qb with
  | nil => rfl
  | cons k rest =>
    have : (c.sb.state == StreamState.IDLE) = false := beq_false_of_ne (h.ib (hq ▸ List.cons_ne_nil k rest))
    rw [this, Bool.false_and, Bool.false_and]

theorem Inv.swap {c : Cfg} (h : Inv c) : Inv c.swap :=
  ⟨R0_swap _ h.red,
   fun pre k post hq hk => let ⟨f, hf, h1, h2, h3⟩ := h.nb pre k post hq hk; ⟨f.swap, R0_swap f hf, h1, h2, h3⟩,
   fun pre i post hq hi => let ⟨f, hf, h1, h2, h3⟩ := h.na pre i post hq hi; ⟨f.swap, R0_swap f hf, h1, h2, h3⟩,
   h.ib, h.ia⟩

theorem inv_sendA (c : Cfg) (h : Inv c) (i : Fr)
    (hm : maySendAt c.sa i (c.sb.state == .IDLE && c.qb.isEmpty) = true) :
    Inv { c with sa := (stepShape c.sa i.send).2, qa := c.qa ++ [i] } := by
  have hia : c.qa ++ [i] ≠ [] → (stepShape c.sa i.send).2.state ≠ .IDLE := fun _ => send_leaves_idle _ _
  cases hc : i.changing with
  | true =>
    -- the erased configuration, and the witness of every neutral frame from B, make the same step in the reduced
    -- system
    refine ⟨?_, forall_split_snoc h.na fun hj => absurd (hc.symm.trans hj) nofun, ?_, hia, h.ib⟩
    · show (⟨(stepShape c.sa i.send).2, c.sb, er (c.qa ++ [i]), er c.qb⟩ : Cfg) ∈ R0.elems
      rw [er_snoc_changing _ i hc]
      have hm' : maySendAt c.sa i (c.sb.state == .IDLE && (er c.qb).isEmpty) = true := by
        rw [flagA_erase c h]
        exact hm
      exact r0_sendA (erase c) h.red i hc hm'
    · intro pre k post hsplit hk
      obtain ⟨f, hf, hfa, hfq, hfm⟩ := h.nb pre k post hsplit hk
      -- B has a frame in flight, so `hm` does not rest on B being idle
      have hne : c.qb.isEmpty = false := by rw [hsplit]; cases pre <;> rfl
      rw [hne, Bool.and_false] at hm
      have hm' : maySendAt f.sa i (f.sb.state == .IDLE && f.qb.isEmpty) = true := by
        rw [hfa]
        exact maySendAt_of_false _ _ _ hm
      exact ⟨_, r0_sendA f hf i hc hm', congrArg (fun s => (stepShape s i.send).2) hfa, hfq, hfm⟩
  | false =>
    have hsame : (stepShape c.sa i.send).2 = c.sa := neutral_send_same c.sa i _ (r0_good _ h.red).1 hc hm
    refine ⟨?_, forall_split_snoc h.na fun _ => ⟨erase c, h.red, rfl, rfl, or_of_flag _ _ _ hm⟩, ?_, hia, h.ib⟩
    · show (⟨(stepShape c.sa i.send).2, c.sb, er (c.qa ++ [i]), er c.qb⟩ : Cfg) ∈ R0.elems
      rw [er_snoc_neutral _ i hc, hsame]
      exact h.red
    · intro pre k post hsplit hk
      obtain ⟨f, hf, hfa, hfq, hfm⟩ := h.nb pre k post hsplit hk
      exact ⟨f, hf, hfa.trans hsame.symm, hfq, hfm⟩

theorem inv_sendB (c : Cfg) (h : Inv c) (k : Fr)
    (hm : maySendAt c.sb k (c.sa.state == .IDLE && c.qa.isEmpty) = true) :
    Inv { c with sb := (stepShape c.sb k.send).2, qb := c.qb ++ [k] } :=
  (inv_sendA c.swap h.swap k hm).swap

theorem inv_delA (c : Cfg) (h : Inv c) (i : Fr) (rest : List Fr) (hq : c.qa = i :: rest) :
    fine c.sb i.recv = true ∧ Inv { c with sb := (stepShape c.sb i.recv).2, qa := rest } := by
  have hia : rest ≠ [] → c.sa.state ≠ .IDLE := fun _ => h.ia (hq ▸ List.cons_ne_nil i rest)
  have hib : c.qb ≠ [] → (stepShape c.sb i.recv).2.state ≠ .IDLE := fun hne => recv_stays_non_idle _ _ (h.ib hne)
  cases hc : i.changing with
  | true =>
    -- the erased configuration, and the witness of every neutral frame behind `i`, make the same delivery in the
    -- reduced system
    have hqe : er c.qa = i :: er rest := by rw [hq, er_cons_changing i rest hc]
    have hstep := r0_delA (erase c) h.red i (er rest) hqe
    refine ⟨hstep.1, hstep.2, ?_, h.nb, hia, hib⟩
    intro pre j post hsplit hj
    obtain ⟨f, hf, hfb, hfq, hfm⟩ := forall_split_tail hq h.na pre j post hsplit hj
    rw [er_cons_changing i pre hc] at hfq
    exact ⟨_, (r0_delA f hf i (er pre) hfq).2, congrArg (fun s => (stepShape s i.recv).2) hfb, rfl, hfm⟩
  | false =>
    -- `i`'s own witness has B as it is now and nothing in front of `i`: there B accepts `i` and stays as it is
    obtain ⟨f, hf, hfb, hfq, hfm⟩ := h.na [] i rest hq hc
    have hs3 := s3a_use f hf hfq i hc hfm
    rw [hfb] at hs3
    refine ⟨hs3.1, ?_, ?_, h.nb, hia, hib⟩
    · show (⟨c.sa, (stepShape c.sb i.recv).2, er rest, er c.qb⟩ : Cfg) ∈ R0.elems
      rw [hs3.2, ← er_cons_neutral i rest hc, ← hq]
      exact h.red
    · intro pre j post hsplit hj
      obtain ⟨f2, hf2, hfb2, hfq2, hfm2⟩ := forall_split_tail hq h.na pre j post hsplit hj
      rw [er_cons_neutral i pre hc] at hfq2
      exact ⟨f2, hf2, hfb2.trans hs3.2.symm, hfq2, hfm2⟩

theorem inv_delB (c : Cfg) (h : Inv c) (k : Fr) (rest : List Fr) (hq : c.qb = k :: rest) :
    fine c.sa k.recv = true ∧ Inv { c with sa := (stepShape c.sa k.recv).2, qb := rest } :=
  have h' := inv_delA c.swap h.swap k rest hq
  ⟨h'.1, h'.2.swap⟩

theorem inv_step (c : Cfg) (h : Inv c) (p : Cfg × Bool) (hp : p ∈ succsF c) : p.2 = true ∧ Inv p.1 := by
  rcases List.mem_append.mp hp with hs | hd
  · rcases mem_sendsOf.mp hs with ⟨i, _, hm, rfl⟩ | ⟨k, _, hm, rfl⟩
    · exact ⟨rfl, inv_sendA c h i hm⟩
    · exact ⟨rfl, inv_sendB c h k hm⟩
  · rcases mem_deliveries.mp hd with ⟨i, rest, hq, rfl⟩ | ⟨k, rest, hq, rfl⟩
    · exact inv_delA c h i rest hq
    · exact inv_delB c h k rest hq

theorem reachF_inv (c : Cfg) (h : ReachF c) : Inv c := by
  induction h with
  | init => exact inv_init
  | step c c' ok _ hs ih => exact (inv_step c ih (c', ok) hs).2

/-- **the two stream state machines, all frame kinds, queues of any length, any interleaving**: in every reachable
    configuration every possible step is fine.  For a delivery that means: the frame at the head of a queue, which the
    sender's machine allowed when it was sent, is accepted by the receiver's machine — or the receiver has closed the
    stream meanwhile and deals with it quietly; never a connection error, never a stream error on a live stream.
    (The sender only sends what its machine accepts, and not D17b's DATA / END_STREAM before response headers.) -/
theorem full_never_refused (c : Cfg) (h : ReachF c) : ∀ p ∈ succsF c, p.2 = true :=
  fun p hp => (inv_step c (reachF_inv c h) p hp).1

/-- spelled out for a delivery -/
theorem full_delivery_fine (c : Cfg) (h : ReachF c) (i : Fr) (rest : List Fr) (hq : c.qa = i :: rest) :
    fine c.sb i.recv = true :=
  (inv_delA c (reachF_inv c h) i rest hq).1

/-- non-vacuity: a client that has sent a request, body bytes and END_STREAM, none of it delivered yet -/
example : ReachF { sa := { state := .HALF_CLOSED_LOCAL, client := some true, headersSent := true }, sb := {},
                   qa := [.headers, .data, .endStream], qb := [] } := by
  have h1 : ReachF { sa := { state := .OPEN, client := some true, headersSent := true }, sb := {},
                     qa := [.headers], qb := [] } := ReachF.step init _ true ReachF.init (by decide)
  have h2 : ReachF { sa := { state := .OPEN, client := some true, headersSent := true }, sb := {},
                     qa := [.headers, .data], qb := [] } := ReachF.step _ _ true h1 (by decide)
  exact ReachF.step _ _ true h2 (by decide)

end PairFsm
end H2
