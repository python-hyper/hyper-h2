/-
  Big-endian field coding (`rd32 (be32 n) = n` etc., `struct.pack` within range), and the nine-byte header around a
  body: what `serialize()` writes (`serialize?_eq`) and what `parse_frame_header` reads of it (`parseFrameHeader_be`).
-/
import H2.Model.Frame

namespace H2

theorem u8_toNat_ofNat (n : Nat) : (UInt8.ofNat n).toNat = n % 256 := by
  simp [UInt8.toNat_ofNat']

/-- one more byte in front of the lower ones is one more base-256 digit -/
theorem be_digit (n k : Nat) : n / k % 256 * k + n % k = n % (k * 256) := by
  rw [Nat.mod_mul, Nat.mul_comm, Nat.add_comm]

theorem rd32_be32 (n : Nat) (h : n < 4294967296) : rd32 (be32 n) = n := by
  simp only [be32, rd32, u8_toNat_ofNat, Nat.mod_mod, Nat.add_assoc, be_digit, Nat.reduceMul]
  exact Nat.mod_eq_of_lt h

theorem rd16_be16 (n : Nat) (h : n < 65536) : rd16 (be16 n) = n := by
  simp only [be16, rd16, u8_toNat_ofNat, Nat.mod_mod, be_digit, Nat.reduceMul]
  exact Nat.mod_eq_of_lt h

theorem rd24_be24 (n : Nat) (h : n < 16777216) : rd24 (be24 n) = n := by
  simp only [be24, rd24, u8_toNat_ofNat, Nat.mod_mod, Nat.add_assoc, be_digit, Nat.reduceMul]
  exact Nat.mod_eq_of_lt h

theorem be32_length (n : Nat) : (be32 n).length = 4 := rfl
theorem be16_length (n : Nat) : (be16 n).length = 2 := rfl

theorem take_be32 (n : Nat) (r : Bytes) : (be32 n ++ r).take 4 = be32 n := rfl
theorem drop_be32 (n : Nat) (r : Bytes) : (be32 n ++ r).drop 4 = r := rfl
theorem take_be16 (n : Nat) (r : Bytes) : (be16 n ++ r).take 2 = be16 n := rfl
theorem drop_be16 (n : Nat) (r : Bytes) : (be16 n ++ r).drop 2 = r := rfl

theorem u8?_eq {n : Int} (h : 0 ≤ n ∧ n < 256) : u8? n = some [UInt8.ofNat n.toNat] := if_pos h
theorem u16?_eq {n : Int} (h : 0 ≤ n ∧ n < 65536) : u16? n = some (be16 n.toNat) := if_pos h
theorem u32?_eq {n : Int} (h : 0 ≤ n ∧ n < 4294967296) : u32? n = some (be32 n.toNat) := if_pos h

theorem u8?_nat (n : Nat) (h : n < 256) : u8? (n : Int) = some [UInt8.ofNat n] :=
  u8?_eq (n := n) ⟨by omega, by omega⟩
theorem u16?_nat (n : Nat) (h : n < 65536) : u16? (n : Int) = some (be16 n) :=
  u16?_eq (n := n) ⟨by omega, by omega⟩
theorem u32?_nat (n : Nat) (h : n < 4294967296) : u32? (n : Int) = some (be32 n) :=
  u32?_eq (n := n) ⟨by omega, by omega⟩

theorem u8?_some (n : Int) (h0 : 0 ≤ n) (h1 : n < 256) : ∃ b, u8? n = some b ∧ b.length = 1 :=
  ⟨_, u8?_eq ⟨h0, h1⟩, rfl⟩

theorem u32?_some (n : Int) (h0 : 0 ≤ n) (h1 : n < 4294967296) : ∃ b, u32? n = some b ∧ b.length = 4 :=
  ⟨_, u32?_eq ⟨h0, h1⟩, rfl⟩

theorem mask31_eq {n : Int} (h : 0 ≤ n ∧ n < 2147483648) : mask31 n = n.toNat := by
  unfold mask31; rw [Int.emod_eq_of_lt h.1 h.2]

theorem mask31_nat {n : Nat} (h : n < 2147483648) : mask31 (n : Int) = n :=
  mask31_eq (n := n) ⟨by omega, by omega⟩

/-- the `">HB"` length field of `serialize()` is the 24-bit big-endian length, whatever the length -/
theorem hdrLen_eq (n : Nat) : be16 (n / 256 % 65536) ++ [UInt8.ofNat (n % 256)] = be24 n := by
  have h1 : n / 256 % 65536 / 256 % 256 = n / 65536 % 256 := by omega
  have h2 : n / 256 % 65536 % 256 = n / 256 % 256 := by omega
  simp only [be16, be24, h1, h2, List.cons_append, List.nil_append]

/-- `serialize()`: 24-bit length, type, flags, 31-bit stream id, body -/
theorem serialize?_eq (f : Frame) (body : Bytes) (hb : f.body? = some body)
    (ht : 0 ≤ f.typeCode ∧ f.typeCode < 256) (hf : f.flagByte < 256) :
    f.serialize? = some (be24 body.length ++ [UInt8.ofNat f.typeCode.toNat, UInt8.ofNat f.flagByte] ++
      be32 (mask31 f.sid) ++ body) ∧ f.bodyLen = body.length := by
  constructor
  · unfold Frame.serialize?
    rw [hb, u8?_eq ht, u8?_nat _ hf, ← hdrLen_eq]
    rfl
  · unfold Frame.bodyLen; rw [hb]; rfl

theorem parseFrameHeader_be (n s : Nat) (t fl : UInt8) :
    parseFrameHeader (be24 n ++ [t, fl] ++ be32 s) =
      if assocOk t.toNat (rd32 (be32 s) % 2147483648) then
        .ok { length := rd24 (be24 n), type := t.toNat, flags := fl.toNat, sid := rd32 (be32 s) % 2147483648 }
      else .error .invalidData := rfl

end H2
