/-
  `Good`, the well-formed shapes of the stream state machine, and their enumeration, so that statements over all
  (well-formed shape, input) pairs are decided by the kernel (`decide +kernel`) against the *generated* table.
  (Facts that depend on the row (state, input) alone are read off the 7 × 19 rows instead: Proofs/StepShape.)
-/
import H2.Proofs.StepShape

namespace H2
open H2.Gen

def optBoolAll : List (Option Bool) := [none, some true, some false]
def boolAll : List Bool := [false, true]
def closedByAll : List (Option StreamClosedBy) := none :: StreamClosedBy.all.map some

theorem StreamClosedBy.mem_all (s : StreamClosedBy) : s ∈ StreamClosedBy.all := by cases s <;> simp [StreamClosedBy.all]
theorem optBool_mem (b : Option Bool) : b ∈ optBoolAll := by
  rcases b with _ | b
  · simp [optBoolAll]
  · cases b <;> simp [optBoolAll]
theorem bool_mem (b : Bool) : b ∈ boolAll := by cases b <;> simp [boolAll]
theorem closedBy_mem (b : Option StreamClosedBy) : b ∈ closedByAll := by
  rcases b with _ | b
  · simp [closedByAll]
  · simp [closedByAll, StreamClosedBy.mem_all]

/-- well-formed shapes: true of a fresh stream (`good_init`) and closed under `stepShape` (`good_step`).
    (client role fixed by the first event; trailers only after headers; reserved states as the
    push side effects leave them; closed_by only on CLOSED streams).
    `stepShape` is not the only writer of a stream's shape — `Stream.restoreSaved` puts back `state` and the two
    sent-flags of a refused `send_headers`, not `client` — and no theorem derives `Good` for the streams of a reachable
    connection: in a statement of the form `!Good sh || …` it is a premise. -/
def Good (s : Shape) : Bool :=
  (s.state != .IDLE || (s.client == none && !s.headersSent && !s.trailersSent && !s.headersReceived
                          && !s.trailersReceived && s.closedBy == none)) &&
  (s.client != some true || s.headersSent) &&
  (s.client != some false || s.headersReceived) &&
  (!s.trailersSent || s.headersSent) && (!s.trailersReceived || s.headersReceived) &&
  (s.state != .RESERVED_LOCAL || (s.client == some false && !s.headersSent)) &&
  (s.state != .RESERVED_REMOTE || (s.client == some true && !s.headersReceived)) &&
  (s.closedBy == none || s.state == .CLOSED) &&
  (s.client != none || s.state == .IDLE || s.state == .CLOSED)

/-- the clauses of `Good` that read only state, role and the two header flags -/
def Good.early (st : StreamState) (cl : Option Bool) (hs hr : Bool) : Bool :=
  (cl != some true || hs) && (cl != some false || hr) &&
  (st != .RESERVED_LOCAL || (cl == some false && !hs)) &&
  (st != .RESERVED_REMOTE || (cl == some true && !hr)) &&
  (cl != none || st == .IDLE || st == .CLOSED)

theorem Good.early_of {s : Shape} (h : Good s = true) :
    Good.early s.state s.client s.headersSent s.headersReceived = true := by
  simp only [Good, Bool.and_eq_true] at h
  obtain ⟨⟨⟨⟨⟨⟨⟨⟨_, hsent⟩, hrecv⟩, _⟩, _⟩, hlocal⟩, hremote⟩, _⟩, hrole⟩ := h
  simp only [Good.early, Bool.and_eq_true]
  exact ⟨⟨⟨⟨hsent, hrecv⟩, hlocal⟩, hremote⟩, hrole⟩

theorem Good.sent_of_client {s : Shape} (h : Good s = true) : (s.client != some true || s.headersSent) = true := by
  have he := Good.early_of h
  simp only [Good.early, Bool.and_eq_true] at he
  obtain ⟨⟨⟨⟨hsent, _⟩, _⟩, _⟩, _⟩ := he
  exact hsent

/-- the well-formed shapes, by nested loops over the seven fields (building all shapes as one list first costs the
    kernel more than most checks): an outer combination that already breaks a clause of `Good` (54 of the 84) is
    dropped before the other three fields are enumerated, so that `Good` is evaluated on 600 shapes, not 1 680, to
    find the 146 -/
def Good.forallB (P : Shape → Bool) : Bool :=
  StreamState.all.all fun st => optBoolAll.all fun cl => boolAll.all fun hs => boolAll.all fun hr =>
  !Good.early st cl hs hr || boolAll.all fun ts => boolAll.all fun tr => closedByAll.all fun cb =>
    !Good ⟨st, cl, hs, ts, hr, tr, cb⟩ || P ⟨st, cl, hs, ts, hr, tr, cb⟩

theorem Good.forallB_elim {P : Shape → Bool} (h : Good.forallB P = true) {s : Shape} (hg : Good s = true) :
    P s = true := by
  have he := Good.early_of hg
  obtain ⟨st, cl, hs, ts, hr, tr, cb⟩ := s
  simp only [Good.forallB, List.all_eq_true] at h
  have h1 := h st (StreamState.mem_all st) cl (optBool_mem cl) hs (bool_mem hs) hr (bool_mem hr)
  rw [he] at h1
  have h2 := List.all_eq_true.mp (List.all_eq_true.mp (List.all_eq_true.mp h1 ts (bool_mem ts)) tr (bool_mem tr))
    cb (closedBy_mem cb)
  rw [hg] at h2
  exact h2

theorem forall_good_shape {P : Shape → Bool} (hP : ∀ s, Good s = false → P s = true) (h : Good.forallB P = true)
    (s : Shape) : P s = true := by
  cases hg : Good s
  · exact hP s hg
  · exact Good.forallB_elim h hg

theorem forall_good_input {P : Shape → StreamInputs → Bool}
    (h : Good.forallB (fun s => StreamInputs.all.all fun i => P s i) = true) (s : Shape) (i : StreamInputs) :
    (!Good s || P s i) = true := by
  cases hg : Good s
  · rfl
  · exact List.all_eq_true.mp (Good.forallB_elim h hg) i (StreamInputs.mem_all i)

theorem forall_good_shape_input {P : Shape → StreamInputs → Bool} (hP : ∀ s i, Good s = false → P s i = true)
    (h : Good.forallB (fun s => StreamInputs.all.all fun i => P s i) = true) (s : Shape) (i : StreamInputs) :
    P s i = true := by
  have hi := forall_good_input h s i
  cases hg : Good s
  · exact hP s i hg
  · rw [hg] at hi
    exact hi

theorem good_init : Good {} = true := by decide

/-- `Good` is an invariant of the state machine, for every input (decided over the generated table) -/
theorem good_step : ∀ s i, (!Good s || Good (stepShape s i).2) = true :=
  forall_good_input (by decide +kernel)

end H2
