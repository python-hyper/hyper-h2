/-
  One Hoare rule for `receive_data`.  The walk `receive_data` → frame loop → `_receive_frame` → dispatcher / `except`
  clauses is done here once, as weakest-precondition equations (rules, for the two `except` handlers) for the wrappers
  and one invariant rule for the loop; a statement about `receive_data` (the invariant `WF`, what is written, closed
  connections, `Stable`) is then an instance that only says what the dispatcher does.
-/
import H2.Proofs.RecvAppend
namespace H2
open H2.Gen H2.Conn

section
variable {α : Type} {Q : α → Conn → Prop} {E : Exc → Conn → Prop}

theorem wp_hideFb (m : CM α) (c : Conn) :
    wp (hideFb m) Q E c =
      wp m (fun a c' => Q a { c' with fb := c.fb }) (fun e c' => E e { c' with fb := c.fb }) { c with fb := {} } := by
  unfold wp hideFb
  cases m { c with fb := {} } with
  | mk r c' => cases r <;> rfl

end

section
variable {Q : List Event → Conn → Prop} {E : Exc → Conn → Prop}

theorem wp_receiveFrame (rf : RFrame) (c : Conn) :
    wp (receiveFrame rf) Q E c =
      wp (dispatch rf) (fun fe c1 => wp (prepareForSending fe.1) (fun _ => Q fe.2) E c1)
        (fun e c1 => if (e.isInstance .StreamClosedError || e.isInstance .StreamIDTooLowError) = true
          then wp (frameErrorHandler e) Q E c1 else E e c1) c := by
  unfold receiveFrame
  simp only [wp_tryCatch, wp_bind, wp_bind_fn, wp_pure_fn]

/-- the `except` clauses of `_receive_frame` either re-raise (the exception itself, or StreamClosedError in its
    place) or answer with one RST_STREAM carrying the exception's code or STREAM_CLOSED -/
theorem wp_frameErrorHandler (cls : ExcClass) (code esid : Option Int) (evs : List Event) (c : Conn)
    (hrst : ∀ k evs', k = code.getD 0 ∨ k = ErrorCodes.STREAM_CLOSED →
      wp (connInput .SEND_RST_STREAM)
        (fun _ => wp (prepareForSending [Frame.rstStream (esid.getD 0) k]) (fun _ => Q evs') E) E c)
    (hsame : E (.h2 cls code esid evs) c) (hclosed : E (mkStreamClosed (esid.getD 0)) c) :
    wp (frameErrorHandler (.h2 cls code esid evs)) Q E c := by
  unfold frameErrorHandler
  simp only
  split
  · simp only [wp_bind, wp_getS, wp_ite, wp_bind_fn, wp_raise]
    split
    · exact hrst _ _ (Or.inl rfl)
    · exact hsame
  · simp only [wp_bind, wp_getS, wp_ite, wp_bind_fn, wp_raise]
    split
    · exact hrst _ _ (Or.inr rfl)
    · split
      · exact hclosed
      · exact hsame

theorem wp_terminateConnection {Q : Unit → Conn → Prop} (code : Int) (c : Conn) :
    wp (terminateConnection code) Q E c =
      wp (connInput .SEND_GOAWAY) (fun _ => wp (prepareForSending [Frame.goaway c.highestIn code []]) Q E) E c := by
  unfold terminateConnection
  wps

/-- the `except` clauses of `receive_data`: one GOAWAY and a re-raise, or a bare re-raise -/
theorem wp_handleRecvError (e : Exc) (c : Conn)
    (hterm : ∀ (k : Int) e', (e = .py (.Other "InvalidPaddingError") ∧ k = ErrorCodes.PROTOCOL_ERROR ∧ e' = pErr) ∨
        (∃ cls sid evs, e = .h2 cls (some k) sid evs ∧ cls.isSub .ProtocolError = true ∧ e' = e) →
      wp (terminateConnection k) (fun _ => E e') E c)
    (hraise : ∀ e', e' = e ∨ e' = .py .AttributeError → E e' c) :
    wp (handleRecvError e) Q E c := by
  unfold handleRecvError
  split
  · wps; exact hterm _ _ (Or.inl ⟨rfl, rfl, rfl⟩)
  · split
    · split
      · rename_i hsub _ _; wps; exact hterm _ _ (Or.inr ⟨_, _, _, rfl, hsub, rfl⟩)
      · exact hraise _ (Or.inr rfl)
    · exact hraise _ (Or.inl rfl)
  · exact hraise _ (Or.inl rfl)

theorem wp_receiveData (d : Bytes) (c : Conn) :
    wp (receiveData d) Q E c =
      (match FrameBuffer.addData c.fb d with
       | .error e => E e c
       | .ok fb =>
         wp (recvLoop (fb.data.length + 1) []) Q (fun e c1 => wp (hideFb (handleRecvError e)) Q E c1)
           { c with fb := { fb with maxFrameSize := c.maxInFrame } }) := by
  unfold wp receiveData
  cases FrameBuffer.addData c.fb d with
  | error e => rfl
  | ok fb =>
    simp only
    cases recvLoop (fb.data.length + 1) [] { c with fb := { fb with maxFrameSize := c.maxInFrame } } with
    | mk r c1 => cases r <;> rfl

end

/-- what the frame iterator promises while the header-block backlog satisfies `H`: its frames satisfy `G`, its
    errors `N`, and `H` holds again -/
def Yields (H : List Frame → Prop) (G : RFrame → Prop) (N : Exc → Prop) : Prop :=
  ∀ fuel fb, H fb.headersBuffer →
    (∀ rf fb', FrameBuffer.next fuel fb = (.ok (some rf), fb') → G rf) ∧
    (∀ e fb', FrameBuffer.next fuel fb = (.error e, fb') → N e) ∧
    H (FrameBuffer.next fuel fb).2.headersBuffer

theorem Yields.of_next1 {H : List Frame → Prop} {G : RFrame → Prop} {N : Exc → Prop}
    (h1 : ∀ fb, H fb.headersBuffer →
      (∀ rf fb', FrameBuffer.next1 fb = (.ok (.frame rf), fb') → G rf) ∧
      (∀ e fb', FrameBuffer.next1 fb = (.error e, fb') → N e) ∧
      H (FrameBuffer.next1 fb).2.headersBuffer) : Yields H G N :=
  FrameBuffer.next_rule (P := fun fb => H fb.headersBuffer) h1

theorem yields_any : Yields (fun _ => True) (fun _ => True) (fun _ => True) :=
  .of_next1 fun _ _ => ⟨fun _ _ _ => trivial, fun _ _ _ => trivial, trivial⟩

section
variable {H : List Frame → Prop} {G : RFrame → Prop} {N : Exc → Prop} {I : Conn → Prop} {F : Exc → Conn → Prop}

/-- the frame loop keeps every invariant `I` that `_receive_frame` keeps and that does not look at the frame buffer;
    `F` is what is known when it raises -/
theorem recvLoop_rule (hY : Yields H G N)
    (hI : ∀ c fb, I c → I { c with fb := fb }) (hF : ∀ e c fb, F e c → F e { c with fb := fb })
    (hnext : ∀ e c, N e → I c → F e c)
    (hframe : ∀ rf c, G rf → I c → wp (receiveFrame rf) (fun _ => I) F c)
    (fuel : Nat) (evs : List Event) (c : Conn) (h : I c) (hh : H c.fb.headersBuffer) :
    wp (recvLoop fuel evs) (fun _ c' => I c' ∧ H c'.fb.headersBuffer) (fun e c' => F e c' ∧ H c'.fb.headersBuffer) c := by
  induction fuel generalizing evs c with
  | zero => exact ⟨h, hh⟩
  | succ n ih =>
    rw [wp_recvLoop_succ]
    have hn := hY (c.fb.data.length + 1) c.fb hh
    cases hnx : FrameBuffer.next (c.fb.data.length + 1) c.fb with
    | mk r fb =>
      rw [hnx] at hn
      cases r with
      | error e => exact ⟨hF _ _ _ (hnext e c (hn.2.1 e fb rfl) h), hn.2.2⟩
      | ok o =>
        cases o with
        | none => exact ⟨hI _ _ h, hn.2.2⟩
        | some rf =>
          refine wp_mono (hframe rf _ (hn.1 rf fb rfl) (hI c {} h)) ?_ ?_
          · intro es c' h'; exact ih _ _ (hI _ _ h') hn.2.2
          · intro e c' h'; exact ⟨hF _ _ _ h', hn.2.2⟩

/-- **the rule for `receive_data`**: it refuses the client preface and leaves everything as it was, or: on return `I`
    holds, on a raise `E`; both ignore the frame buffer, whose backlog keeps `H` -/
theorem receiveData_rule {E : Exc → Conn → Prop} (hY : Yields H G N)
    (hI : ∀ c fb, I c → I { c with fb := fb }) (hF : ∀ e c fb, F e c → F e { c with fb := fb })
    (hE : ∀ e c fb, E e c → E e { c with fb := fb })
    (hnext : ∀ e c, N e → I c → F e c)
    (hframe : ∀ rf c, G rf → I c → wp (receiveFrame rf) (fun _ => I) F c)
    (herr : ∀ e c, F e c → wp (handleRecvError e) (fun _ => I) E c)
    (d : Bytes) (c : Conn) (h : I c) (hh : H c.fb.headersBuffer) :
    wp (receiveData d) (fun _ c' => I c' ∧ H c'.fb.headersBuffer)
      (fun e c' => (FrameBuffer.addData c.fb d = .error e ∧ c' = c) ∨ (E e c' ∧ H c'.fb.headersBuffer)) c := by
  rw [wp_receiveData]
  cases ha : FrameBuffer.addData c.fb d with
  | error e => exact Or.inl ⟨rfl, rfl⟩
  | ok fb =>
    refine wp_mono (recvLoop_rule hY hI hF hnext hframe _ _ _ (hI _ _ h)
      (by rw [← FrameBuffer.addData_headersBuffer ha] at hh; exact hh)) (fun _ _ h' => h') ?_
    intro e c1 h1
    rw [wp_hideFb]
    exact wp_mono (herr e _ (hF _ _ _ h1.1)) (fun _ _ h' => ⟨hI _ _ h', h1.2⟩)
      (fun _ _ h' => Or.inr ⟨hE _ _ _ h', h1.2⟩)

end

theorem step_recv (c : Conn) (d : Bytes) : (step c (.recv d)).1 = (receiveData d c).2 := by
  simp only [step]
  cases receiveData d c with
  | mk r c' => cases r <;> rfl

end H2
