/-
  A stream's outbound flow-control window never exceeds 2^31-1 (RFC 7540 section 6.9.1) through the stream methods
  walked in Proofs/Keeps: what the statements of Props/C03 are made of.  Two methods write the window — `send_data`
  (takes the flow-controlled length off) and `receive_window_update` (through `guard_increment_window`; an overflow
  resets the stream and leaves the window alone) — and their walks take that write as a hypothesis, so `prims_SWk` has
  no field to fill; every other method leaves the window as it is (`prims_outWin`).
-/
import H2.Proofs.Keeps
namespace H2

/-- the outbound window is within the largest window RFC 7540 allows -/
def SWk (st : Stream) : Prop := st.outWin ≤ 2147483647

/-- the conclusion of `Keeps.field` for the field `outWin` -/
def KeepsOW {α : Type} (m : M Stream α) : Prop :=
  ∀ st, wp m (fun _ st' => st'.outWin = st.outWin) (fun _ st' => st'.outWin = st.outWin) st

theorem prims_outWin (v : Int) : StreamPrims (fun st => st.outWin = v) := StreamPrims.ofField (·.outWin) v

/-- `(Keeps SWk m).run` written out -/
def KeepsLe {α : Type} (m : M Stream α) : Prop := ∀ st, SWk st → wp m (fun _ st' => SWk st') (fun _ st' => SWk st') st

/-- the bound reads nothing but the window -/
theorem prims_SWk : StreamPrims SWk := {}

end H2
