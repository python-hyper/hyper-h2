/-
  Lifting an invariant of the frame handlers to `receive_data`: a predicate on connections that does not look at the
  frame buffer and that the connection state machine, `_prepare_for_sending` and every frame handler preserve (whether
  they return or raise) is preserved by `receive_data`, for every byte string.  An instance of the rule of
  Proofs/RecvRule; `RecvPrims.stable`, `ApiPrims.stable` produce the hypotheses from the building blocks.
-/
import H2.Proofs.RecvTotal
import H2.Proofs.KeepsConn
namespace H2
open H2.Gen H2.Conn

/-- what is asked of `P` besides the dispatcher: the frame buffer is not read, and the two steps of every reply the
    receive path writes itself (state-machine input, `_prepare_for_sending`) keep `P` -/
structure StableB (P : Conn → Prop) : Prop where
  fb : ∀ c fb, P c → P { c with fb := fb }
  connInput : ∀ i c, P c → wp (connInput i) (fun _ c' => P c') (fun _ c' => P c') c
  prepare : ∀ fs c, P c → wp (prepareForSending fs) (fun _ c' => P c') (fun _ c' => P c') c

/-- … and every frame handler keeps `P` -/
structure Stable (P : Conn → Prop) : Prop extends StableB P where
  dispatch : ∀ rf c, P c → wp (dispatch rf) (fun _ c' => P c') (fun _ c' => P c') c

variable {P : Conn → Prop}

theorem stableB_reply (hP : StableB P) (i : ConnectionInputs) (fs : List Frame) (c : Conn) (h : P c) :
    wp (connInput i) (fun _ => wp (prepareForSending fs) (fun _ => P) (fun _ => P)) (fun _ => P) c :=
  wp_mono (hP.connInput i c h) (fun _ c1 h1 => hP.prepare fs c1 h1) (fun _ _ h' => h')

theorem stableB_receiveFrame (hP : StableB P) (rf : RFrame) (c : Conn)
    (hd : wp (dispatch rf) (fun _ => P) (fun _ => P) c) : wp (receiveFrame rf) (fun _ => P) (fun _ => P) c := by
  rw [wp_receiveFrame]
  refine wp_mono hd (fun fe c1 h1 => hP.prepare _ c1 h1) ?_
  intro e c1 h1
  split
  · cases e with
    | py k => exact h1
    | h2 cls code esid evs => exact wp_frameErrorHandler _ _ _ _ _ (fun _ _ _ => stableB_reply hP _ _ c1 h1) h1 h1
  · exact h1

theorem stableB_handleRecvError (hP : StableB P) (e : Exc) (c : Conn) (h : P c) :
    wp (handleRecvError e) (fun _ => P) (fun _ => P) c :=
  wp_handleRecvError e c (fun k _ _ => by rw [wp_terminateConnection]; exact stableB_reply hP _ _ c h) (fun _ _ => h)

theorem stableB_receiveData {H : List Frame → Prop} {G : RFrame → Prop} {N : Exc → Prop} (hP : StableB P)
    (hY : Yields H G N) (hd : ∀ rf c, G rf → P c → wp (dispatch rf) (fun _ => P) (fun _ => P) c)
    (d : Bytes) (c : Conn) (h : P c) (hh : H c.fb.headersBuffer) : P (receiveData d c).2 :=
  wp_state (wp_mono (receiveData_rule (F := fun _ => P) (E := fun _ => P) hY hP.fb (fun _ => hP.fb) (fun _ => hP.fb)
    (fun _ _ _ h' => h') (fun rf c' hg h' => stableB_receiveFrame hP rf c' (hd rf c' hg h'))
    (fun e c' h' => stableB_handleRecvError hP e c' h') d c h hh)
    (fun _ _ h' => h'.1) (fun _ _ h' => h'.elim (fun h1 => h1.2 ▸ h) (·.1)))

theorem stable_receiveData (hP : Stable P) (d : Bytes) (c : Conn) (h : P c) : P (receiveData d c).2 :=
  stableB_receiveData hP.toStableB yields_any (fun rf c _ => hP.dispatch rf c) d c h trivial

/-! ### the same for predicates that need the frames to be what the parser yields

  A predicate like "the connection's outbound window is not negative" is not kept by the WINDOW_UPDATE handler for an
  arbitrary increment — only for the increments hyperframe lets through (`RFrameOk`: at least 1).  `StableV` asks the
  dispatcher to keep the predicate for such frames only; `receive_data` then keeps it for every byte string, because
  every frame the frame buffer yields is such a frame (`yields_ok`; that needs the header-block backlog to be well
  formed, which `C17.Inv` says). -/

structure StableV (P : Conn → Prop) : Prop extends StableB P where
  dispatch : ∀ rf c, RFrameOk rf → P c → wp (dispatch rf) (fun _ c' => P c') (fun _ c' => P c') c

theorem Stable.toV (hP : Stable P) : StableV P := { hP.toStableB with dispatch := fun rf c _ h => hP.dispatch rf c h }

theorem stableV_receiveData (hP : StableV P) (d : Bytes) (c : Conn) (h : P c) (hh : HbOk c.fb.headersBuffer) :
    P (receiveData d c).2 :=
  stableB_receiveData hP.toStableB yields_ok hP.dispatch d c h hh

/-! ### from the building blocks -/

variable {F : (Stream → Prop) → Prop}

/-- a predicate that survives the building blocks of the handlers and `_prepare_for_sending`, and does not read the
    frame buffer, is stable for parsed frames; `hw`: the WINDOW_UPDATE handler's assignment, for the increments the
    parser lets through -/
theorem RecvPrims.stableV (hP : RecvPrims P F) (hprep : ∀ fs, Keeps P (prepareForSending fs))
    (hout : ∀ c, P c → P { c with out := [] }) (hfb : ∀ c fb, P c → P { c with fb := fb })
    (hw : ∀ incr, 1 ≤ incr → ∀ c w, guard_increment_window c.outWin incr = .ok w → P c → P { c with outWin := w }) :
    StableV P where
  fb := hfb
  connInput := fun i => (hP.connInput i).run
  prepare := fun fs => (hprep fs).run
  dispatch := fun rf c hrf => (hP.dispatch hout rf fun _ _ h => hw _ (hrf.2 _ _ h)).run c

theorem RecvPrims.stable (hP : RecvPrims P F) (hprep : ∀ fs, Keeps P (prepareForSending fs))
    (hout : ∀ c, P c → P { c with out := [] }) (hfb : ∀ c fb, P c → P { c with fb := fb })
    (hw : ∀ c w, P c → P { c with outWin := w }) : Stable P where
  fb := hfb
  connInput := fun i => (hP.connInput i).run
  prepare := fun fs => (hprep fs).run
  dispatch := fun rf => (hP.dispatch hout rf fun _ _ _ c w _ => hw c w).run

theorem ApiPrims.stableV (hP : ApiPrims P) (hfb : ∀ c fb, P c → P { c with fb := fb })
    (hw : ∀ incr, 1 ≤ incr → ∀ c w, guard_increment_window c.outWin incr = .ok w → P c → P { c with outWin := w }) :
    StableV P :=
  hP.toRecvPrims.stableV hP.prepare (fun c => hP.setOut c []) hfb hw

theorem ApiPrims.stable (hP : ApiPrims P) (hfb : ∀ c fb, P c → P { c with fb := fb })
    (hw : ∀ c w, P c → P { c with outWin := w }) : Stable P :=
  hP.toRecvPrims.stable hP.prepare (fun c => hP.setOut c []) hfb hw

end H2
