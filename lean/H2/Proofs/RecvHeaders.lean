/-
  Receive path: HEADERS and PUSH_PROMISE handlers (header block decoding, stream creation, the stream methods).
-/
import H2.Proofs.RecvSettings
namespace H2
open H2.Gen H2.Conn

/-- HPACK decoding on the receive path: the decoder hands back bytes pairs and stays as `DecOk` says, or the handler
    ends with a protocol error that nothing swallows -/
theorem wp_decodeHeaders {Q : List Header → Conn → Prop} (block : Bytes) (c : Conn) (hwf : WF c)
    (hq : ∀ hs hp', AllBytes hs → WF { c with hp := hp' } → Q hs { c with hp := hp' }) :
    wp (decodeHeaders block) Q CE c := by
  have hd := hwf.wfb.dec
  have hw : ∀ hp', DecOk hp' → WF { c with hp := hp' } := fun hp' h => ⟨{ hwf.wfb with dec := h }, hwf.2⟩
  rw [wp_decodeHeaders_eq]
  cases horc : c.hp.decOracle with
  | nil => exact CE_plain plain_pErr { hwf.wfb with dec := hd }
  | cons r rest =>
    have hr := hd r (by rw [horc]; exact List.mem_cons_self ..)
    have hrest : DecOk { c.hp with decLog := c.hp.decLog ++ [block], decOracle := rest } := by
      intro x hx; exact hd x (by rw [horc]; exact List.mem_cons_of_mem _ hx)
    cases r with
    | ok hs => exact hq hs _ hr (hw _ hrest)
    | oversized => exact CE_plain (plain_mkExc _ (by decide) (by decide)) (hw _ hrest).wfb
    | hpackError => exact CE_plain plain_pErr (hw _ hrest).wfb
    | py n => exact hr.elim

theorem wp_openInboundStreams_wf {Q : Int → Conn → Prop} {E : Exc → Conn → Prop} (c : Conn) (hwf : WF c)
    (hq : ∀ n c', WF c' → c'.cstate = c.cstate → Q n c') : wp openInboundStreams Q E c := by
  unfold openInboundStreams
  rw [wp_bind, wp_getS, wp_openStreams_eq]
  exact hq _ _ ⟨hwf.wfb.congr, fun hc e he => hwf.2 hc e (List.mem_filter.mp he).1⟩ rfl

theorem hasStream_putStream (c : Conn) (sid : Int) (st : Stream) :
    hasStream ((putStream sid st c).2) sid = true := by
  rw [hasStream_lookup, lookup_putStream, if_pos rfl]
  rfl

theorem notIdleExcept_putStream (c : Conn) (sid : Int) (st : Stream) (h : StreamsNotIdle c.streams) :
    NotIdleExcept sid ((putStream sid st c).2).streams := fun e he hne =>
  (mem_putStream c sid st e he).elim (fun h1 => absurd (congrArg Prod.fst h1) hne) (h e)

theorem fresh_putStream (c : Conn) (sid : Int) (st : Stream) (hl : Live c) : Fresh sid (putStream sid st c).2 :=
  ⟨by rw [putStream_eq]; exact hl.toWFb.congr, by rw [putStream_eq]; exact hl.notClosed,
    notIdleExcept_putStream c sid st hl.notIdle, hasStream_putStream c sid st⟩

theorem not_createFails {c : Conn} (hls : SettingsOk c.localSettings) (hrs : SettingsOk c.remoteSettings) :
    ¬ CreateFails c := by
  obtain ⟨iw, hiw, _, hiv⟩ := hls.initialWindowSize
  obtain ⟨ow, how, _⟩ := hrs.initialWindowSize
  rintro (h | h | ⟨iw', e, h1, h2⟩)
  · rw [hiw] at h; cases h
  · rw [how] at h; cases h
  · rw [hiw] at h1; cases h1; rw [WindowManager.init_eq hiv] at h2; cases h2

theorem wp_beginNewStream_live {Q : Unit → Conn → Prop} {E : Exc → Conn → Prop} (sid : Int) (odd : Bool) (c : Conn)
    (hl : Live c) (hq : ∀ c', Fresh sid c' → Q () c') (he : ∀ e, GoodExc e → E e c) :
    wp (beginNewStream sid odd) Q E c := by
  refine wp_beginNewStream_rule sid odd c (fun ow _ wm _ _ _ _ _ _ => hq _ ?_) fun e h => he e ?_
  · have hf := fresh_putStream c sid { sm := { sid := sid }, maxOutFrame := c.maxOutFrame, outWin := ow, inWM := wm } hl
    unfold filed
    split <;> exact ⟨hf.toWFb.congr, hf.notClosed, hf.others, hf.has⟩
  · rcases h with rfl | rfl | h
    · exact goodExc_mkExc .StreamIDTooLowError (some sid) (by decide)
    · exact goodExc_pErr
    · exact absurd h (not_createFails hl.ls hl.rs)

theorem wp_getOrCreateStream_live {Q : Unit → Conn → Prop} {E : Exc → Conn → Prop} (sid : Int) (odd : Bool) (c : Conn)
    (hl : Live c) (hq : ∀ c', Fresh sid c' → Q () c') (he : ∀ e, GoodExc e → E e c) :
    wp (getOrCreateStream sid odd) Q E c := by
  unfold getOrCreateStream
  wps
  split
  · rename_i hex; exact hq c (fresh_of_live hl hex)
  · exact wp_beginNewStream_live sid odd c hl hq he

theorem hspec_headersRest (sid : Int) (block : Bytes) (es : Bool) (prio : Option Prio) (c0 : Conn) (hwf0 : WF c0) :
    wp (receiveHeadersRest sid block es prio) HQ CE c0 := by
  unfold receiveHeadersRest
  wps
  apply wp_decodeHeaders _ _ hwf0
  · intro hs hp' hab hwf1
    wps
    apply wp_connInput_CE _ _ hwf1 (by unfold notGoaway; decide)
    intro t hl
    wps
    split
    · exact CE_plain plain_pErr hl.toWFb
    · apply wp_getOrCreateStream_live _ _ _ hl
      · intro c' hf
        wps
        obtain ⟨b, hb⟩ := isInformationalResponse_ok hs hab
        apply wp_withStream_fresh NoFrames _ _ _ hf
          (fun st _ => (sgood_receiveHeaders _ hs es st hb).mono fun _ h => h.noFrames)
        · intro a st' hr hl'
          obtain ⟨frames, evs⟩ := a
          simp only
          cases prio with
          | none => wps; exact ⟨hl'.wf, framesOk_of_noFrames hr⟩
          | some p =>
            simp only
            wps
            exact wp_mono (hspec_priority sid p _ hl'.wf) (fun (_, _) _ h2 => ⟨h2.1, framesOk_of_noFrames hr⟩)
              fun _ _ h2 => h2
        · intro e st' hce; exact hce
      · intro e he; exact CE_wf he hl.wf

theorem hspec_headers (sid : Int) (block : Bytes) (es : Bool) (prio : Option Prio) (c : Conn) (hwf : WF c) :
    wp (receiveHeadersFrame sid block es prio) HQ CE c := by
  unfold receiveHeadersFrame
  wps
  split
  · apply wp_openInboundStreams_wf _ hwf
    intro n c' hwf' _
    wps
    split
    · exact CE_plain (plain_mkExc _ (by decide) (by decide)) hwf'.wfb
    · exact hspec_headersRest _ _ _ _ c' hwf'
  · exact hspec_headersRest _ _ _ _ c hwf

theorem hspec_refusePushed (promised : Int) (c : Conn) (hl : Live c) :
    wp (do let f ← refusePushedStream promised; pure ([f], [])) HQ CE c := by
  unfold refusePushedStream
  wps
  refine ⟨?_, framesOk_one ⟨by decide, by decide⟩⟩
  split <;> exact hl.wf.congr

theorem hspec_pushKnown (sid promised : Int) (hs : List Header) (c : Conn) (hl : Live c)
    (hex : hasStream c sid = true) : wp (receivePushPromiseKnown sid promised hs) HQ CE c := by
  unfold receivePushPromiseKnown
  wps
  split
  · exact CE_plain plain_pErr hl.toWFb
  · apply wp_withStream_live _ _ _ _ hl hex (sgood_receivePushPromiseInBand c.cfg promised hs)
    · intro a st' hr hl'
      obtain ⟨frames, evs⟩ := a
      wps
      apply wp_openInboundStreams_wf _ hl'.wf
      intro n c1 hwf1 hcs1
      have hl1 : Live c1 := .of_wf hwf1 (hcs1 ▸ hl'.notClosed)
      wps
      apply wp_beginNewStream_live _ _ _ hl1
      · intro c' hf
        wps
        apply wp_withStream_fresh _ _ _ _ hf (fun st _ => sgood_remotelyPushed hs st)
        · intro a2 st2 _ hl2; wps; exact ⟨hl2.wf, framesOk_of_noFrames hr⟩
        · intro e st2 hce; exact hce
      · intro e he; exact CE_wf he hl1.wf
    · intro e st' hce
      exact hce.exceptStreamClosed fun _ hwf' => hspec_refusePushed _ _ (.of_wf hwf' hl.notClosed)

theorem hspec_pushUnknown (sid promised : Int) (c : Conn) (hl : Live c) :
    wp (receivePushPromiseUnknown sid promised) HQ CE c := by
  unfold receivePushPromiseUnknown
  wps
  split
  · exact hspec_refusePushed _ _ hl
  · exact CE_plain plain_pErr hl.toWFb

theorem hspec_pushPromise (sid promised : Int) (block : Bytes) (c : Conn) (hwf : WF c) :
    wp (receivePushPromiseFrame sid promised block) HQ CE c := by
  unfold receivePushPromiseFrame
  wps
  obtain ⟨ep, hep⟩ := hwf.wfb.ls.enablePush
  rw [hep]
  simp only
  split
  · exact CE_plain plain_pErr hwf.wfb
  · wps
    apply wp_decodeHeaders _ _ hwf
    · intro hs hp' hab hwf1
      wps
      apply wp_connInput_CE _ _ hwf1 (by unfold notGoaway; decide)
      intro t hl
      split
      · exact CE_plain plain_pErr hl.toWFb
      rw [wp_bind]
      apply wp_findStream_good
      · intro hex; exact hspec_pushKnown _ _ _ _ hl hex
      · exact hspec_pushUnknown _ _ _ hl
      · intro e he; exact CE_wf he hl.wf

end H2
