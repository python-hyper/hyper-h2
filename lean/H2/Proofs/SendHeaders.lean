/-
  `H2Stream.send_headers` in full: which frames come out (shape, sizes, serialisability), which exceptions are possible,
  what happens to the HPACK context.  `H2Connection.send_headers`: which exceptions are possible, what happens to the
  HPACK context, that a raising call writes nothing, and what the call leaves alone either way (`Kept`); which frames a
  returning call writes is not stated (`SendHeadersOk`).  `InCall`, `Kept` and `CallErr` are the bookkeeping that
  `push_stream` and the two `initiate_*` calls (Proofs/PushStream, Proofs/Initiate) share with it.
-/
import H2.Proofs.StreamsOk
import H2.Proofs.ApiOk
import H2.Proofs.HeaderSend
namespace H2
open H2.Gen H2.Conn

/-! ### `H2Stream.send_headers` in full: frames, sizes, exceptions -/

/-- the HEADERS (+ CONTINUATION) frames of one header block, as `send_headers` returns them -/
def HdrFrames (sid maxOut ov : Int) (es : Bool) (frames : List Frame) : Prop :=
  ∃ blocks : List Bytes, blocks ≠ [] ∧
    frames = (if es then setEndStream else id)
      (mkHeaderFrames (fun b eh => Frame.headers sid b false eh none none) sid blocks) ∧
    (∀ b ∈ blocks.head?, (b.length : Int) + ov ≤ maxOut) ∧ (∀ b ∈ blocks.tail, (b.length : Int) ≤ maxOut)

theorem guardedHeaderBlocks_all (cfg : Config) (headers : List Header) (es pp : Bool) (events : List SEv)
    (s : Stream × Hp) (hm : 5 < s.1.maxOutFrame) :
    wp (Stream.guardedHeaderBlocks cfg headers es pp events)
      (fun blocks s' => s' = (s.1, s.2.afterEncode (outList cfg headers)) ∧
          blocks.flatten = s.2.encoded (outList cfg headers) ∧ blocks ≠ [] ∧
          (∀ b ∈ blocks.head?, (b.length : Int) + (if pp then 5 else 0) ≤ s.1.maxOutFrame) ∧
          (∀ b ∈ blocks.tail, (b.length : Int) ≤ s.1.maxOutFrame))
      (fun e s' => s' = s ∧ (s.1.sm.sid ≠ 0 → events ≠ [] → Allowed e)) s := by
  unfold Stream.guardedHeaderBlocks
  wps
  apply ite_intro
  · intro _; exact ⟨trivial, fun _ _ => trivial⟩
  intro _
  apply ite_intro
  · intro h0
    refine ⟨trivial, fun hsid _ => absurd ?_ hsid⟩
    have h0' : (s.1.sid == 0) = true := h0
    simpa [Stream.sid] using h0'
  intro _
  exact wp_flagsThenBlocks cfg headers events _ s (by split <;> omega) (by split <;> omega)
    (fun blocks hfl hne h1 h2 => ⟨rfl, hfl, hne, h1, h2⟩) fun e he => ⟨rfl, fun _ hev => he hev ▸ trivial⟩

def SentHeaders (cfg : Config) (headers : List Header) (s : Stream × Hp) (ov : Int) (es : Bool) (frames : List Frame)
    (s' : Stream × Hp) : Prop :=
  Encoded1 cfg headers s frames s' ∧ HdrFrames s.1.sm.sid s.1.maxOutFrame ov es frames ∧ s'.1.ident = s.1.ident

/-- the state machine is out of IDLE (the table refused the input: CLOSED) or where it was (a refused header block
    restores the saved state) -/
def RefusedHeaders (s : Stream × Hp) (s' : Stream × Hp) : Prop :=
  s'.2 = s.2 ∧ s'.1.ident = s.1.ident ∧ (s'.1.sm.state ≠ .IDLE ∨ s'.1.sm.state = s.1.sm.state)

theorem sendHeadersAs_all (input : StreamInputs) (cfg : Config) (headers : List Header) (es pp : Bool)
    (s : Stream × Hp) (hm : 5 < s.1.maxOutFrame)
    (hin : input = .SEND_HEADERS ∨ (input = .SEND_INFORMATIONAL_HEADERS ∧ es = false)) :
    wp (Stream.sendHeadersAs input cfg headers es pp)
      (fun frames s' => SentHeaders cfg headers s (if pp then 5 else 0) es frames s' ∧ s'.1.sm.state ≠ .IDLE)
      (fun e s' => RefusedHeaders s s' ∧ (s.1.sm.sid ≠ 0 → Allowed e)) s := by
  unfold Stream.sendHeadersAs
  rw [wp_bind, wp_getS]
  -- the `do` block shares its last step, the assignments to `authority` and `request_method`: they touch neither the
  -- state machine nor the identity
  extract_lets sid close
  show wp _ ?Q ?E s
  have hclose : ∀ fr t, SentHeaders cfg headers s (if pp then 5 else 0) es fr t → t.1.sm.state ≠ .IDLE →
      wp (close fr) ?Q ?E t := by
    intro fr t ⟨henc, hfr, hid⟩ hni
    simp only [close]
    wps
    refine ⟨⟨henc, hfr, ?_⟩, ?_⟩
    · rw [← hid]; simp only [Stream.ident]; split <;> split <;> rfl
    · show (if _ then _ else _ : Stream).sm.state ≠ .IDLE
      split <;> split <;> exact hni
  wps
  unfold onStream
  wps
  have hout : ∀ {sh}, (stepShape s.1.sm.sh input).2 = sh → sh.state ≠ .IDLE :=
    step_not_idle (.inl (by rcases hin with h | ⟨h, _⟩ <;> rw [h] <;> exact nofun))
  refine wp_processInput_rule _ _ (fun events sh hstep => ?_) fun e sh hx _ hsh =>
    ⟨⟨rfl, rfl, .inl (hout hsh)⟩, fun _ => hx.allowed⟩
  have hsh := hout (congrArg Prod.snd hstep)
  -- SEND_HEADERS and SEND_INFORMATIONAL_HEADERS, when accepted, report an event: 2 × 7 rows
  have hevs : events ≠ [] :=
    evs_of_row (by rcases hin with rfl | ⟨rfl, _⟩ <;> cases s.1.sm.sh.state <;> rfl) hstep
  apply wp_mono (guardedHeaderBlocks_all cfg headers es pp events (s.1.withShape sh, s.2) hm)
  · intro blocks s' ⟨hs', hfl, hne, hsz1, hsz2⟩
    subst hs'
    wps
    have henc := fun st => encoded1_frames cfg headers s st (fun b eh => Frame.headers s.1.sid b false eh none none)
      s.1.sid blocks (fun _ _ => rfl) hfl
    cases es with
    | false =>
      simp only [Bool.false_eq_true, if_false]
      exact hclose _ _ ⟨henc _, ⟨blocks, hne, rfl, hsz1, hsz2⟩, rfl⟩ hsh
    | true =>
      simp only [if_true]
      obtain rfl : input = .SEND_HEADERS := hin.elim id fun h => nomatch h.2
      -- END_STREAM right after the block it ends is never refused
      refine wp_processInput_rule _ _ (fun evs2 sh2 hend => ?_) fun _ _ _ hno _ =>
        absurd (tbl_end_after_headers hstep) (ne_true_of_eq_false hno)
      exact hclose _ _ ⟨(henc _).endStream, ⟨blocks, hne, rfl, hsz1, hsz2⟩, rfl⟩
        (step_not_idle (.inr hsh) (congrArg Prod.snd hend))
  · intro e s' ⟨hs', hal⟩
    subst hs'
    simp only [if_true]
    exact ⟨⟨rfl, rfl, Or.inr rfl⟩, fun hsid => hal hsid hevs⟩

/-- **`H2Stream.send_headers`**, any stream state, header list, flags and configuration: refused with the HPACK context
    untouched, or exactly one `encode` of the (normalised) list whose output is what the HEADERS / CONTINUATION frames
    carry.  A stream of the table has a nonzero id; then a well-typed list is refused with an h2 exception or a
    ValueError only. -/
theorem stream_sendHeaders_all (cfg : Config) (headers : List Header) (es pp : Bool) (s : Stream × Hp)
    (hm : 5 < s.1.maxOutFrame) :
    wp (Stream.sendHeaders cfg headers es pp)
      (fun frames s' => SentHeaders cfg headers s (if pp then 5 else 0) es frames s' ∧ s'.1.sm.state ≠ .IDLE)
      (fun e s' => RefusedHeaders s s' ∧ (s.1.sm.sid ≠ 0 → WellTyped headers → Allowed e)) s := by
  unfold Stream.sendHeaders
  rw [wp_bind, wp_getS]
  -- the `do` block shares what follows the test for an informational response
  extract_lets rest
  show wp _ ?Q ?E s
  have fin : ∀ informational, wp (rest informational) ?Q ?E s := by
    intro informational
    simp only [rest]
    wps
    apply ite_intro
    · intro _; exact ⟨⟨rfl, rfl, Or.inr rfl⟩, fun _ _ => trivial⟩
    · intro hie
      refine wp_mono (sendHeadersAs_all _ cfg headers es pp s hm ?_) (fun _ _ h => h)
        (fun _ _ h => ⟨h.1, fun h0 _ => h.2 h0⟩)
      cases informational
      · exact .inl rfl
      · exact .inr ⟨rfl, by simpa using hie⟩
  wps
  apply ite_intro
  · intro _
    cases hb : isInformationalResponse headers with
    | error e =>
      refine ⟨⟨rfl, rfl, Or.inr rfl⟩, fun _ hwt => ?_⟩
      obtain ⟨b, hb'⟩ := isInformationalResponse_wt headers hwt
      rw [hb'] at hb; cases hb
    | ok b => exact fin b
  · intro _
    exact fin false

/-! ### the frames of a header block fit -/

/-- `ov`: what the first frame carries besides its fragment (priority fields, promised stream id) -/
theorem mkHeaderFrames_fit (first : Bytes → Bool → Frame) (sid mo ov : Int) (blocks : List Bytes) (hne : blocks ≠ [])
    (hs1 : ∀ b ∈ blocks.head?, (b.length : Int) + ov ≤ mo) (hs2 : ∀ b ∈ blocks.tail, (b.length : Int) ≤ mo) :
    ∃ b eh conts, mkHeaderFrames first sid blocks = first b eh :: conts ∧ (b.length : Int) + ov ≤ mo ∧
      ∀ f ∈ conts, f.Fits mo := by
  cases blocks with
  | nil => exact absurd rfl hne
  | cons b rest =>
    refine ⟨b, _, _, mkHeaderFrames_cons first sid b rest, hs1 b rfl, fun f hf => ?_⟩
    obtain ⟨⟨blk, i⟩, hmem, rfl⟩ := List.mem_map.mp hf
    exact continuation_fits sid blk _ mo (hs2 blk (List.fst_mem_of_mem_zipIdx hmem))

theorem hdrFrames_first (sid mo ov : Int) (es : Bool) (frames : List Frame) (h : HdrFrames sid mo ov es frames) :
    ∃ b eh conts, frames = Frame.headers sid b es eh none none :: conts ∧ (b.length : Int) + ov ≤ mo ∧
      ∀ f ∈ conts, f.Fits mo := by
  obtain ⟨blocks, hne, hfr, hs1, hs2⟩ := h
  obtain ⟨b, eh, conts, hmk, hb, hc⟩ := mkHeaderFrames_fit _ sid mo ov blocks hne hs1 hs2
  rw [hmk] at hfr
  exact ⟨b, eh, conts, by rw [hfr]; cases es <;> rfl, hb, hc⟩

/-! ### `H2Connection.send_headers` -/

/-- What the steps around the stream method preserve in a call that may create the stream object `sid` (`send_headers`,
    `push_stream`, the upgrade; `initiate_connection` with no such stream).  `c0` is the state the call started in; `cr`
    says whether this call has created the stream object `sid` (which then is IDLE until the stream method runs); in
    `send_headers` it is the value of `opening`. -/
structure InCall (sid : Int) (cr : Bool) (c0 c : Conn) : Prop where
  /-- these steps write the connection state, the stream table, the memory of closed streams and the two marks -/
  same : { c with cstate := c0.cstate, streams := c0.streams, closedStreams := c0.closedStreams,
                  highestIn := c0.highestIn, highestOut := c0.highestOut } = c0
  so : SO c
  /-- a stream that existed when the call started is still there -/
  pre : hasStream c0 sid = true → hasStream c sid = true
  /-- every stream has left IDLE but the one this call created -/
  idle : c.cstate ≠ .CLOSED → ∀ e ∈ c.streams, ¬(cr = true ∧ e.1 = sid) → e.2.sm.state ≠ .IDLE

theorem InCall.refl {c : Conn} (sid : Int) (h : SO c) (hw : WF c) : InCall sid false c c :=
  ⟨rfl, h, fun hs => hs, fun hc e he _ => hw.2 hc e he⟩

/-- what such a call leaves alone whether it returns or raises, and the invariants -/
structure Kept (c c' : Conn) : Prop where
  so : SO c'
  fb : c'.fb = c.fb
  ls : c'.localSettings = c.localSettings
  rs : c'.remoteSettings = c.remoteSettings
  mof : c'.maxOutFrame = c.maxOutFrame
  cfg : c'.cfg = c.cfg
  /-- no stream is left IDLE (unless the connection is closed) -/
  ni : c'.cstate ≠ .CLOSED → StreamsNotIdle c'.streams

/-- a returning `send_headers` has made exactly one `encode` call, of the normalised list (the frames it wrote are not
    described) -/
def SendHeadersOk (c : Conn) (headers : List Header) : Unit → Conn → Prop :=
  fun _ c' => c'.hp = c.hp.afterEncode (outList c.cfg headers) ∧ Kept c c'
/-- what C29 and C13 ask of a call that raises: the exception is an allowed one, and neither the output nor the
    compression context has changed -/
def CallErr (c : Conn) : Exc → Conn → Prop :=
  fun e c' => Allowed e ∧ OS c' = OS c ∧ c'.hp = c.hp ∧ Kept c c'

/-- what `Kept` keeps of `WF`; the HPACK context is the caller's business -/
theorem Kept.wf {c c' : Conn} (k : Kept c c') (h : WFb c) (hp : DecOk c'.hp) : WF c' :=
  ⟨⟨k.ls ▸ h.ls, k.rs ▸ h.rs, k.mof ▸ h.mof, hp, k.ls ▸ h.ls32⟩, k.ni⟩

namespace InCall
variable {sid : Int} {cr : Bool} {c0 c : Conn} (g : InCall sid cr c0 c)
include g

theorem sent : c.sent = c0.sent := (congrArg Conn.sent g.same :)
theorem os : OS c = OS c0 := (congrArg OS g.same :)
theorem hp : c.hp = c0.hp := (congrArg Conn.hp g.same :)
theorem cfg : c.cfg = c0.cfg := (congrArg Conn.cfg g.same :)
theorem mof : c.maxOutFrame = c0.maxOutFrame := (congrArg Conn.maxOutFrame g.same :)
theorem ls : c.localSettings = c0.localSettings := (congrArg Conn.localSettings g.same :)
theorem rs : c.remoteSettings = c0.remoteSettings := (congrArg Conn.remoteSettings g.same :)
theorem fb : c.fb = c0.fb := (congrArg Conn.fb g.same :)

theorem wfb (h : WFb c0) : WFb c := h.congr g.ls g.rs g.mof g.hp

theorem stream (hwf : WFb c0) {k : Int} {st : Stream} (hl : c.streams.lookup k = some st) :
    st.sm.sid = k ∧ st.sm.sid ≠ 0 ∧ st.maxOutFrame = c.maxOutFrame ∧ 5 < st.maxOutFrame := by
  obtain ⟨h1, h2, _, h4⟩ := g.so.1 _ (lookup_mem _ _ _ hl)
  have := (g.wfb hwf).mof
  exact ⟨h1, by rw [h1]; omega, h4, by rw [h4]; omega⟩

/-- `Kept` for a state that `SO` and "no stream IDLE" have been shown of: the rest is read off the fields -/
theorem keptOf {c' : Conn} (so : SO c') (ni : c'.cstate ≠ .CLOSED → StreamsNotIdle c'.streams)
    (hfb : c'.fb = c.fb := by rfl) (hls : c'.localSettings = c.localSettings := by rfl)
    (hrs : c'.remoteSettings = c.remoteSettings := by rfl) (hmo : c'.maxOutFrame = c.maxOutFrame := by rfl)
    (hcfg : c'.cfg = c.cfg := by rfl) : Kept c0 c' :=
  ⟨so, hfb.trans g.fb, hls.trans g.ls, hrs.trans g.rs, hmo.trans g.mof, hcfg.trans g.cfg, ni⟩

theorem afterMethod {k : Int} {st st' : Stream} (hl : c.streams.lookup k = some st) (hid : st'.ident = st.ident)
    (hni : st'.sm.state ≠ .IDLE ∨ st'.sm.state = st.sm.state) : InCall sid cr c0 (setStream c k st') := by
  refine ⟨g.same, so_setStream c k st st' g.so hl hid, fun h => (hasStream_setStream c k st' sid).trans (g.pre h),
    fun hc e he hn => ?_⟩
  rcases mem_setStream c k st' e he with rfl | ⟨he0, _⟩
  · -- in the state it had, `k` was not IDLE either, unless it is the stream this call created
    exact hni.elim id fun h => h ▸ g.idle hc (k, st) (lookup_mem _ _ _ hl) hn
  · exact g.idle hc e he0 hn

theorem opened {st st' : Stream} (hl : c.streams.lookup sid = some st) (hid : st'.ident = st.ident)
    (hni : st'.sm.state ≠ .IDLE) : InCall sid false c0 (setStream c sid st') := by
  have g' := g.afterMethod hl hid (.inl hni)
  refine ⟨g'.same, g'.so, g'.pre, fun hc e he _ => ?_⟩
  rcases mem_setStream c sid st' e he with rfl | ⟨_, hne⟩
  · exact hni
  · exact g'.idle hc e he fun h => hne h.2

/-- the call is refused after it created the stream object: `del self.streams[sid]` leaves nothing IDLE behind -/
theorem takenBack {ho : Int} (h0 : 0 ≤ ho) (hp : Hp) :
    Kept c0 { c with streams := c.streams.filter fun s => s.1 != sid, highestOut := ho, hp := hp } :=
  g.keptOf ⟨fun e he => g.so.1 e (List.mem_filter.mp he).1, g.so.2.1, h0⟩ fun hc e he =>
    have hm := List.mem_filter.mp he
    g.idle hc e hm.1 fun h => bne_iff_ne.mp hm.2 h.2

end InCall

theorem InCall.kept {sid : Int} {c0 c : Conn} (g : InCall sid false c0 c) : Kept c0 c :=
  g.keptOf g.so fun hc e he => g.idle hc e he fun h => nomatch h.1

/-- what the end of a call writes: the HPACK context, the output buffer with the history, the preamble flag -/
theorem InCall.done {sid : Int} {c0 c : Conn} (g : InCall sid false c0 c) (hp : Hp) (o : Bytes) (fs : List Frame)
    (pre : Bool) : Kept c0 { c with hp := hp, out := o, sent := fs, preambleSent := pre } :=
  g.keptOf g.so g.kept.ni

theorem InCall.weaken {sid : Int} {c0 c : Conn} (g : InCall sid false c0 c) (cr : Bool) : InCall sid cr c0 c :=
  ⟨g.same, g.so, g.pre, fun hc e he _ => g.kept.ni hc e he⟩

theorem InCall.refused {sid : Int} {c0 c : Conn} (g : InCall sid false c0 c) {e : Exc} (hal : Allowed e) :
    CallErr c0 e c :=
  ⟨hal, g.os, g.hp, g.kept⟩

section
variable {E : Exc → Conn → Prop}

theorem inCall_connInput {Q : Unit → Conn → Prop} (i : ConnectionInputs) {sid : Int} {cr : Bool} {c0 c : Conn}
    (h : InCall sid cr c0 c) (hq : ∀ c', InCall sid cr c0 c' → connTable c.cstate i = some c'.cstate → Q () c')
    (he : ∀ c', InCall sid cr c0 c' → E pErr c') :
    wp (connInput i) Q E c := by
  rw [wp_connInput_eq]
  split
  next t hct =>
    -- CLOSED is left by no input
    have hcl : t ≠ .CLOSED → c.cstate ≠ .CLOSED := by
      intro ht hc
      rw [hc] at hct
      exact ht (conn_closed_absorbing _ _ hct)
    exact hq _ ⟨h.same, h.so, h.pre, fun hc => h.idle (hcl hc)⟩ hct
  · exact he _ ⟨h.same, h.so, h.pre, fun hc => absurd rfl hc⟩

theorem inCall_openStreams {Q : Int → Conn → Prop} (r : Int) {sid : Int} {cr : Bool} {c0 c : Conn}
    (h : InCall sid cr c0 c) (hno : hasStream c0 sid = false) (hq : ∀ a c', InCall sid cr c0 c' → Q a c') :
    wp (openStreams r) Q E c := by
  rw [wp_openStreams_eq]
  apply hq
  exact ⟨h.same, (prims_SO.openStreams r).state c h.so, fun hs => (by rw [hno] at hs; cases hs),
      fun hc e he => h.idle hc e (List.mem_filter.mp he).1⟩

end

theorem inCall_beginNewStream {Q : Unit → Conn → Prop} {E : Exc → Conn → Prop} (odd : Bool) {sid : Int} {c0 c : Conn}
    (h : InCall sid false c0 c) (hwf : WFb c0)
    (hq : ∀ c', InCall sid true c0 c' → sid % 2 = (if odd then 1 else 0) →
      (∃ ow iw, c'.streams.lookup sid = some (freshStream sid c.maxOutFrame ow iw)) →
      (∀ k, k ≠ sid → c'.streams.lookup k = c.streams.lookup k) → Q () c')
    (he : ∀ e, Allowed e → E e c) : wp (beginNewStream sid odd) Q E c := by
  refine wp_beginNewStream_rule sid odd c (fun ow iw wm _ hiw hwm hlt hpar hle => ?_) fun e h' => he e ?_
  · obtain ⟨iw', hiw', _, hiv⟩ := (h.wfb hwf).ls.initialWindowSize
    rw [hiw] at hiw'; cases hiw'
    rw [WindowManager.init_eq hiv] at hwm; cases hwm
    -- the id is above the mark of its direction, which `SO` keeps nonnegative
    have h1 := h.so.2.1
    have h2 := h.so.2.2
    have hs : 0 < sid ∧ sid ≤ 2147483647 := ⟨by split at hlt <;> omega, hle⟩
    have hso := so_putStream c sid (freshStream sid c.maxOutFrame ow iw) h.so ⟨rfl, hs.1, hs.2, rfl⟩
    unfold filed
    rw [putStream_eq] at hso ⊢
    -- whichever mark moves, it moves to `sid`
    have fin : ∀ hi ho : Int, 0 ≤ hi → 0 ≤ ho →
        Q () { c with streams := (putStream sid (freshStream sid c.maxOutFrame ow iw) c).2.streams,
                      highestIn := hi, highestOut := ho } := fun hi ho h1 h2 =>
      hq _ ⟨h.same, ⟨hso.1, h1, h2⟩, fun _ => hasStream_putStream c sid _,
          fun hc e he hn => notIdleExcept_putStream c sid _ (h.kept.ni hc) e he fun hk => hn ⟨rfl, hk⟩⟩ hpar
        ⟨ow, iw, (lookup_putStream c sid _ sid).trans (if_pos rfl)⟩
        fun k hk => (lookup_putStream c sid _ k).trans (if_neg hk)
    have hsid : 0 ≤ sid := by omega
    split
    · exact fin c.highestIn sid h1 hsid
    · exact fin sid c.highestOut hsid h2
  · rcases h' with rfl | rfl | hf
    · exact allowed_h2 _ _ _ _
    · exact allowed_pErr
    · exact absurd hf (not_createFails (h.wfb hwf).ls (h.wfb hwf).rs)

/-- `send_headers` creates the stream object exactly when `sid` was not in the table at the start of the call -/
theorem inCall_getOrCreateStream {Q : Unit → Conn → Prop} {E : Exc → Conn → Prop} (odd : Bool) {sid : Int} {c0 c : Conn}
    (h : InCall sid false c0 c) (hwf : WFb c0)
    (hq : ∀ c', InCall sid (!hasStream c0 sid) c0 c' → hasStream c' sid = true → Q () c')
    (he : ∀ e, Allowed e → E e c) :
    wp (getOrCreateStream sid odd) Q E c := by
  unfold getOrCreateStream
  wps
  apply ite_intro
  · intro hs; exact hq c (h.weaken _) hs
  intro hnos
  have hno0 : hasStream c0 sid = false := Bool.eq_false_iff.mpr fun h0 => hnos (h.pre h0)
  rw [hno0] at hq
  refine inCall_beginNewStream odd h hwf (fun c' g _ ⟨_, _, hl⟩ _ => hq c' g ?_) he
  rw [hasStream_lookup, hl]; rfl

-- as in Proofs/ApiOk: the unifier must not evaluate the serialisation of concrete frames
attribute [local irreducible] prepareForSending

/-- `_add_frame_priority` cannot fail once the arguments passed the check at the start of `send_headers` -/
theorem addPriority_spec {Q : List Frame → Conn → Prop} {E : Exc → Conn → Prop} (pp : Bool) (sid : Int) (b : Bytes)
    (es eh : Bool) (conts : List Frame) (pw pd : Option Int) (pe : Option Bool) (c : Conn)
    (hcp : pp = true → checkPriority sid pw pd = .ok ())
    (hq : ∀ prio : Option Prio, prio.isSome = pp →
      (∀ p, prio = some p → (0 ≤ p.dependsOn ∧ p.dependsOn ≤ 2147483647) ∧ (0 ≤ p.weight ∧ p.weight ≤ 255)) →
      Q (Frame.headers sid b es eh none prio :: conts) c) :
    wp (addPriority pp (Frame.headers sid b es eh none none :: conts) pw pd pe) Q E c := by
  unfold addPriority
  cases pp with
  | false => simp only [Bool.false_eq_true, if_false]; wps; exact hq none rfl (fun p hp => by cases hp)
  | true =>
    simp only [if_true]
    wps
    obtain ⟨p, hf⟩ : ∃ p, framePriority sid pw pd pe = .ok p := by
      unfold framePriority
      rw [hcp rfl]
      exact ⟨_, rfl⟩
    rw [hf]
    exact hq (some p) rfl fun q hq' => by cases hq'; exact framePriority_ok sid pw pd pe p hf

theorem sendHeadersTail_spec (c0 c : Conn) (sid : Int) (headers : List Header) (es : Bool) (pw pd : Option Int)
    (pe : Option Bool) (hG : InCall sid false c0 c) (hwf : WFb c0) (hwt : WellTyped headers)
    (hcp : (pw.isSome || pd.isSome || pe.isSome) = true → checkPriority sid pw pd = .ok ()) (g0 : 0 ≤ c0.highestOut) :
    wp (sendHeadersTail c0 sid headers es pw pd pe) (SendHeadersOk c0 headers) (CallErr c0) c := by
  unfold sendHeadersTail SendHeadersOk CallErr
  wps
  apply inCall_connInput _ hG
  · intro c1 g1 _
    wps
    apply inCall_getOrCreateStream _ g1 hwf
    · intro c2 g2 hhas
      wps
      obtain ⟨st, hl⟩ := lookup_of_hasStream c2 sid hhas
      rw [wp_withStreamHp, hl]
      simp only
      obtain ⟨hsid', hsid, hmo, hm5⟩ := g2.stream hwf hl
      apply wp_mono (stream_sendHeaders_all c0.cfg headers es (pw.isSome || pd.isSome || pe.isSome) (st, c2.hp) hm5)
      · intro frames s' ⟨⟨henc, hfr, hid⟩, hni⟩
        obtain ⟨b, eh, conts, hfe, hb, hc⟩ := hdrFrames_first _ _ _ _ _ hfr
        subst hfe
        simp only at hb hc
        rw [hmo] at hb hc
        rw [hsid']
        wps
        apply addPriority_spec _ sid b es eh conts pw pd pe _ hcp
        intro prio hps hpr
        apply wp_prepare_fits
        · exact List.forall_mem_cons.mpr ⟨headers_fits sid b es eh prio _ hpr (by rw [hps]; exact hb), hc⟩
        · intro o
          exact ⟨henc.1.trans (by rw [g2.hp]), (g2.opened hl hid hni).done _ _ _ _⟩
      · intro e s' ⟨⟨hhp, hid, hni⟩, hal⟩
        simp only [if_true]
        have g3 := g2.afterMethod hl hid hni
        apply ite_intro
        · intro _
          exact ⟨hal hsid hwt, g3.os, hhp.trans g2.hp, g3.takenBack g0 _⟩
        · intro hop
          -- the stream existed when the call started, so it was not IDLE, and a refused call does not make it so
          rw [Bool.eq_false_iff.mpr hop] at g3
          exact ⟨hal hsid hwt, g3.os, hhp.trans g2.hp, g3.done _ _ _ _⟩
    · intro e hal; exact g1.refused hal
  · intro c1 g1; exact g1.refused allowed_pErr

/-- **`H2Connection.send_headers`**, any arguments (header tuples well-typed), any state satisfying the invariants -/
theorem sendHeaders_spec (sid : Int) (headers : List Header) (es : Bool) (pw pd : Option Int) (pe : Option Bool)
    (c : Conn) (hwf : WF c) (hso : SO c) (hwt : WellTyped headers) :
    wp (sendHeaders sid headers es pw pd pe) (SendHeadersOk c headers) (CallErr c) c := by
  have g00 := InCall.refl sid hso hwf
  unfold sendHeaders
  rw [wp_bind, wp_getS]
  -- the `do` block shares what follows the priority check (`gate`) and what follows the admission check (`tail`);
  -- the names go to the `let`s in the order the elaborator produced them, which is not the order of the source
  extract_lets pp tail _ gate
  have hgate (hcp : pp = true → checkPriority sid pw pd = .ok ()) :
      wp (gate ()) (SendHeadersOk c headers) (CallErr c) c := by
    have htail : ∀ c1, InCall sid false c c1 → wp (tail ()) (SendHeadersOk c headers) (CallErr c) c1 :=
      fun c1 g => sendHeadersTail_spec c c1 sid headers es pw pd pe g hwf.1 hwt hcp hso.2.2
    simp only [gate]
    wps
    apply ite_intro
    · intro _
      apply getStreamById_cases
      · intro _; exact htail c g00
      · intro e hal; exact g00.refused hal
    · intro _
      apply ite_intro
      · intro hnos
        have hno : hasStream c sid = false := by simpa using hnos
        unfold openOutboundStreams
        wps
        apply inCall_openStreams _ g00 hno
        intro n c1 g1
        wps
        apply ite_intro
        · intro _
          exact g1.refused (allowed_mkExc _ _)
        · intro _
          exact htail c1 g1
      · intro _
        exact htail c g00
  wps
  apply ite_intro
  · intro hpp
    apply ite_intro
    · intro _; exact g00.refused (allowed_mkExc _ _)
    · intro _
      cases hck : checkPriority sid pw pd with
      | error x => simp only; rw [checkPriority_err _ _ _ _ hck]; exact g00.refused allowed_pErr
      | ok u => exact hgate fun _ => hck
  · intro hpp
    exact hgate fun h => absurd h hpp

end H2
