/-
  `H2Connection.initiate_connection` and `initiate_upgrade_connection` at connection level: what they write, which
  exceptions they raise, and that the invariants (WF, stream table in order) hold afterwards whether they return or
  raise.  With these two every public call has a connection-level theorem.
-/
import H2.Proofs.PushStream
import H2.Proofs.Invariants
namespace H2
open H2.Gen H2.Conn

/-! ### `initiate_connection` -/

theorem localSettings_serialize (c : Conn) (h : LS32 c.localSettings) :
    ∃ b, (Frame.settings false c.localSettings.items).serialize? = some b :=
  (settings_serialize c.localSettings.items (ls32_items _ h)).1

def InitiateOk (c : Conn) : Unit → Conn → Prop :=
  fun _ c' => c'.hp = c.hp ∧ Kept c c' ∧ c'.sent = c.sent ++ [Frame.settings false c.localSettings.items] ∧
    c'.preambleSent = true

/-- **`H2Connection.initiate_connection`**, any state satisfying the invariants: it writes the SETTINGS frame of the
    current local settings (never a StructError), or the connection state machine refuses and nothing is written -/
theorem initiateConnection_spec (c : Conn) (hwf : WF c) (hso : SO c) :
    wp initiateConnection (InitiateOk c) (CallErr c) c := by
  unfold initiateConnection settingsFrameOfLocal InitiateOk CallErr
  wps
  apply inCall_connInput _ (InCall.refl 0 hso hwf)
  · intro c1 g1 _
    wps
    obtain ⟨b, hb⟩ := localSettings_serialize c1 (g1.wfb hwf.1).ls32
    rw [hb]
    simp only
    wps
    refine ⟨g1.hp, g1.done _ _ _ _, ?_, trivial⟩
    show c1.sent ++ [Frame.settings false c1.localSettings.items] = _
    rw [g1.sent, g1.ls]
  · intro c1 g1; exact g1.refused allowed_pErr

/-! ### `initiate_upgrade_connection` -/

theorem tbl_freshUpgrade (cl : Bool) :
    ∃ evs, (stepShape ({} : Shape) (if cl then .UPGRADE_CLIENT else .UPGRADE_SERVER)).1 = .ok evs := by
  cases cl <;> exact ⟨_, rfl⟩

theorem upgrade_fresh {Q : Unit → Stream → Prop} {E : Exc → Stream → Prop} (mo ow iw : Int) (cl : Bool)
    (hq : ∀ st', st'.sm.state ≠ .IDLE → st'.ident = (freshStream 1 mo ow iw).ident → Q () st') :
    wp (Stream.upgrade cl) Q E (freshStream 1 mo ow iw) := by
  unfold Stream.upgrade
  wps
  have hs : ((freshStream 1 mo ow iw).sid != 1) = false := rfl
  rw [hs]
  simp only [Bool.false_eq_true, if_false]
  obtain ⟨evs, h⟩ := tbl_freshUpgrade cl
  refine wp_processInput_fresh 1 mo ow iw (by cases cl <;> exact nofun) h fun st' hni hid => ?_
  wps
  exact hq st' hni hid

/-- the invariants whether the call returns or raises; a raising call has written nothing -/
def UpgradeOk (c : Conn) : Option Bytes → Conn → Prop :=
  fun _ c' => WF c' ∧ SO c' ∧ c'.fb = c.fb
def UpgradeErr (c : Conn) : Exc → Conn → Prop :=
  fun e c' => Allowed e ∧ OS c' = OS c ∧ WF c' ∧ SO c' ∧ c'.fb = c.fb

theorem Kept.invariants {c0 c c' : Conn} (k : Kept c c') (hwf : WFb c) (hhp : c'.hp = c.hp) (hfb : c.fb = c0.fb) :
    WF c' ∧ SO c' ∧ c'.fb = c0.fb :=
  ⟨k.wf hwf (hhp ▸ hwf.dec), k.so, k.fb.trans hfb⟩

theorem os_of_k3 {c c' : Conn} (h : c'.k3 = c.k3) : OS c' = OS c ∧ c'.fb = c.fb :=
  ⟨congrArg (fun x => (x.1, x.2.1)) h, congrArg (·.2.2) h⟩

-- as in Proofs/ApiOk: the unifier must not evaluate the serialisation of concrete frames
attribute [local irreducible] prepareForSending

theorem upgradeRest_spec (c0 c : Conn) (cl : Bool) (hwf : WF c) (hso : SO c) (hos : OS c = OS c0) (hfb : c.fb = c0.fb) :
    wp (do
        connInput (if cl then .SEND_HEADERS else .RECV_HEADERS)
        beginNewStream 1 true
        withStream 1 (Stream.upgrade cl)
        initiateConnection
        if cl then do
          let f ← settingsFrameOfLocal
          match f.body? with
          | none => raise (.py .StructError)
          | some b => pure (some (b64Encode b))
        else pure none) (UpgradeOk c0) (UpgradeErr c0) c := by
  unfold UpgradeOk UpgradeErr
  wps
  have gerr : ∀ {e : Exc} {c' : Conn}, InCall 1 false c c' → Allowed e →
      Allowed e ∧ OS c' = OS c0 ∧ WF c' ∧ SO c' ∧ c'.fb = c0.fb :=
    fun g hal => ⟨hal, g.os.trans hos, g.kept.invariants hwf.1 g.hp hfb⟩
  apply inCall_connInput _ (InCall.refl 1 hso hwf)
  · intro c1 g1 _
    wps
    apply inCall_beginNewStream true g1 hwf.1
    · intro c2 g2 _ ⟨ow, iw, hfresh⟩ _
      wps
      rw [wp_withStream, hfresh]
      simp only
      refine upgrade_fresh c1.maxOutFrame ow iw cl fun st' hni hid => ?_
      wps
      -- the state `initiate_connection` starts from satisfies the invariants again
      have g3 := g2.opened hfresh hid hni
      have hwf3 : WFb (setStream c2 1 st') := g3.wfb hwf.1
      apply wp_mono (initiateConnection_spec (setStream c2 1 st') ⟨hwf3, g3.kept.ni⟩ g3.so)
      · intro _ c4 ⟨hhp, k, _, _⟩
        have h4 := k.invariants hwf3 hhp (g3.fb.trans hfb)
        wps
        cases cl with
        | false =>
          simp only [Bool.false_eq_true, if_false]
          exact h4
        | true =>
          simp only [if_true]
          unfold settingsFrameOfLocal
          wps
          obtain ⟨b, hb⟩ := localSettings_serialize c4 h4.1.1.ls32
          obtain ⟨body, hbody⟩ := body_of_serialize _ _ hb
          rw [hbody]
          simp only
          wps
          exact h4
      · intro e c4 ⟨hal, hos4, hhp, k⟩
        exact ⟨hal, hos4.trans (g3.os.trans hos), k.invariants hwf3 hhp (g3.fb.trans hfb)⟩
    · intro e hal; exact gerr g1 hal
  · intro c1 g1; exact gerr g1 allowed_pErr

/-- **`H2Connection.initiate_upgrade_connection`**, any state satisfying the invariants, any HTTP2-Settings value that
    is base64 (what `urlsafe_b64decode` does with other input — binascii.Error, a ValueError, or silently dropping
    characters — is not modelled): it returns, or it raises an h2 exception and then nothing has been written; either
    way the invariants hold afterwards -/
theorem initiateUpgrade_spec (hdr : Option Bytes) (c : Conn) (hwf : WF c) (hso : SO c)
    (hb64 : ∀ h, hdr = some h → (b64Decode h).isSome = true) :
    wp (initiateUpgradeConnection (fun items => do let _ ← receiveSettingsFrame false items; pure ()) hdr)
      (UpgradeOk c) (UpgradeErr c) c := by
  unfold initiateUpgradeConnection
  rw [wp_bind, wp_getS]
  -- the `do` block shares what follows the decoding of the header value (`applied`) and the settings (`rest`);
  -- the names go to the `let`s in the order the elaborator produced them, which is not the order of the source
  extract_lets rest applied
  have hrest : ∀ c1, WF c1 → SO c1 → OS c1 = OS c → c1.fb = c.fb → wp (rest ()) (UpgradeOk c) (UpgradeErr c) c1 :=
    fun c1 => upgradeRest_spec c c1 c.cfg.client
  have hnone : wp (applied none) (UpgradeOk c) (UpgradeErr c) c := hrest c hwf hso rfl rfl
  -- once the settings are applied the invariants hold again and nothing has been written
  have hsome : ∀ items, wp (applied (some items)) (UpgradeOk c) (UpgradeErr c) c := by
    intro items
    simp only [applied]
    wps
    refine wp_mono (wp_and (wp_and (settings_user items c hwf) ((prims_SO.settingsFrame false items).run c hso))
        (pk_settings false items c)) ?_ ?_
    · intro _ c1 ⟨⟨hw1, hs1⟩, hk1⟩
      wps
      exact hrest c1 hw1 hs1 (os_of_k3 hk1).1 (os_of_k3 hk1).2
    · intro e c1 ⟨⟨⟨hp, hw1⟩, hs1⟩, hk1⟩
      exact ⟨allowed_of_plain hp, (os_of_k3 hk1).1, hw1, hs1, (os_of_k3 hk1).2⟩
  have hraise : UpgradeErr c pErr c := ⟨allowed_pErr, rfl, hwf, hso, rfl⟩
  wps
  apply ite_intro
  · intro _; exact hnone
  intro _
  cases hdr with
  | none => simp only; wps; exact hnone
  | some h =>
    cases h with
    | nil => simp only; wps; exact hnone
    | cons x xs =>
      simp only
      have hd := hb64 (x :: xs) rfl
      cases hdec : b64Decode (x :: xs) with
      | none => rw [hdec] at hd; simp at hd
      | some body =>
        simp only
        cases hparse : parseBody { length := body.length, type := 4, flags := 0, sid := 0 } body with
        | error pe => simp only; wps; exact hraise
        | ok pf =>
          obtain ⟨fr, fcl⟩ := pf
          cases fr with
          | settings a items => simp only; wps; exact hsome items
          | _ => simp only; wps; exact hraise

end H2
