/-
  A pair-level fact that links C14 and C15: a header block that one endpoint emits under the default configuration
  (normalised and validated for its block type) satisfies, once on the wire, the rule book the other endpoint's
  inbound validation applies for the same block type — so the peer does not refuse it.
-/
import H2.Proofs.HeaderRules
namespace H2.Pair
open H2 H2.Gen

/-- what the peer's HPACK decoder hands to its validation: the same names and values, as bytes -/
def wire (hs : List Header) : List Header := hs.map fun h => ⟨HStr.b h.name.bs, HStr.b h.value.bs, h.ni⟩

theorem forall_wire {P : Header → Prop} (hs : List Header)
    (h : ∀ h ∈ hs, P ⟨HStr.b h.name.bs, HStr.b h.value.bs, h.ni⟩) : ∀ w ∈ wire hs, P w :=
  List.forall_mem_map.mpr h

theorem isPseudo_wire (h : Header) : isPseudo ⟨HStr.b h.name.bs, HStr.b h.value.bs, h.ni⟩ = isPseudo h := rfl

theorem pseudoNames_wire (hs : List Header) : pseudoNames (wire hs) = pseudoNames hs := by
  unfold pseudoNames wire
  rw [List.filter_map, List.map_map]
  rfl

theorem hasPseudo_wire (hs : List Header) (lit : String) : hasPseudo (wire hs) lit = hasPseudo hs lit := by
  unfold hasPseudo wire
  rw [List.any_map]
  rfl

theorem lastMethod_wire (hs : List Header) (init : Option Bytes) : lastMethod init (wire hs) = lastMethod init hs := by
  unfold lastMethod wire
  rw [List.foldl_map]
  rfl

theorem allowedPseudo_b (n : HStr) : allowedPseudo (HStr.b n.bs) = allowedPseudo n := by
  unfold allowedPseudo
  rw [tables.allowedPseudo_s, inSet_same, inSet_same]
  rfl

theorem find_wire (hs : List Header) (p : Header → Bool) (hp : ∀ h, p ⟨HStr.b h.name.bs, HStr.b h.value.bs, h.ni⟩ = p h) :
    ((wire hs).reverse.find? p).map (·.value) = (hs.reverse.find? p).map fun h => HStr.b h.value.bs := by
  unfold wire
  rw [← List.map_reverse, List.find?_map, Option.map_map]
  have : (p ∘ fun h : Header => (⟨HStr.b h.name.bs, HStr.b h.value.bs, h.ni⟩ : Header)) = p := funext hp
  rw [this]
  rfl

/-- `:authority` and `Host` that agree as header strings agree as bytes -/
theorem hostAuthority_wire (hs : List Header) (h : hostAuthorityOk hs = true) : hostAuthorityOk (wire hs) = true := by
  unfold hostAuthorityOk at h ⊢
  rw [find_wire hs (fun h => h.name.isLit (strBytes ":authority")) (fun _ => rfl),
    find_wire hs (fun h => !(h.name.isLit (strBytes ":authority")) && h.name.isLit (strBytes "host")) (fun _ => rfl)]
  -- only when both are present is there something to show: values equal as header strings are equal as bytes
  revert h
  cases hs.reverse.find? (fun h => h.name.isLit (strBytes ":authority")) <;>
    cases hs.reverse.find? (fun h => !(h.name.isLit (strBytes ":authority")) && h.name.isLit (strBytes "host")) <;>
    simp +contextual

/-- **what one endpoint emits under the default configuration, the other endpoint's validation accepts**: a block that
    passed `normalize_outbound_headers` + `validate_outbound_headers` for a block type satisfies the inbound rule book
    for the same block type once it is on the wire -/
theorem emitted_block_is_accepted (hs : List Header) (fl fl' : HdrFlags)
    (hflR : fl'.isResponse = fl.isResponse) (hflT : fl'.isTrailer = fl.isTrailer)
    (hfields : ∀ h ∈ hs, NormalisedField h) (hblock : ConformantOut hs fl) : ConformantIn (wire hs) fl' := by
  refine ⟨?_, ⟨?_, ?_, ?_⟩, ?_, ?_, ?_⟩
  · refine forall_wire hs fun h0 hmem => ?_
    have nf := hfields h0 hmem
    exact ⟨hblock.nonempty h0 hmem, nf.lowercase, nf.nameClean, nf.valueClean, hblock.te h0 hmem, nf.notConnectionSpecific⟩
  · refine forall_wire hs fun h0 hmem hp => ?_
    rw [allowedPseudo_b]
    exact hblock.shape.known h0 hmem hp
  · unfold wire
    rw [List.pairwise_map]
    exact hblock.shape.first
  · rw [pseudoNames_wire]; exact hblock.shape.unique
  · rw [roleOk_iff]
    have hr := (roleOk_iff hs fl).mp hblock.role
    simp only [hasPseudo_wire, lastMethod_wire, hflR, hflT]
    exact ⟨fun ht => forall_wire hs (hr.1 ht), hr.2.1, hr.2.2⟩
  · intro h1 h2
    exact hostAuthority_wire hs (hblock.hostAuthority (hflR ▸ h1) (hflT ▸ h2))
  · intro h1 h2
    exact forall_wire hs (hblock.path (hflR ▸ h1) (hflT ▸ h2))

end H2.Pair
