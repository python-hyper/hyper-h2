/-
  Facts for the receive path: which exceptions it may raise (`GoodExc`), and how a check along a row of the generated
  stream table becomes a fact about the events of an accepted step (the flags play no part).
-/
import H2.Proofs.StreamLemmas
import H2.Proofs.Shapes
namespace H2
open H2.Gen H2.Conn

/-- an h2 `ProtocolError` (or subclass) whose error code fits the 32-bit field of GOAWAY / RST_STREAM -/
def GoodExc (e : Exc) : Prop :=
  match e with
  | .h2 cls code _ _ => cls.isSub .ProtocolError = true ∧ ∃ k, code = some k ∧ 0 ≤ k ∧ k < 4294967296
  | .py _ => False

theorem goodExc_mkExc (cls : ExcClass) (sid : Option Int) (h : cls.isSub .ProtocolError = true) :
    GoodExc (mkExc cls sid) := by
  unfold GoodExc mkExc
  refine ⟨h, ?_⟩
  cases cls <;> first | (exact absurd h (by decide)) | exact ⟨_, rfl, by decide, by decide⟩

theorem goodExc_pErr : GoodExc pErr := goodExc_mkExc _ _ (by decide)

theorem goodExc_streamClosed (sid : Int) (evs : List Event) : GoodExc (mkStreamClosed sid evs) := by
  unfold GoodExc mkStreamClosed
  exact ⟨by decide, _, rfl, by decide, by decide⟩

theorem StepExc.goodExc {sid : Int} {e : Exc} (h : StepExc sid e) : GoodExc e := by
  obtain rfl | ⟨_, rfl⟩ := h
  · exact goodExc_mkExc _ _ (by decide)
  · exact goodExc_streamClosed _ _

/-- anything but acceptance without an event -/
def ProcRes.reports : ProcRes → Bool
  | .ok [] => false
  | _ => true

theorem evs_of_row {s s' : Shape} {i : StreamInputs} {evs : List SEv}
    (hp : (rowRes s.state i).all ProcRes.reports = true) (hs : stepShape s i = (.ok evs, s')) : evs ≠ [] := by
  rintro rfl
  exact Bool.noConfusion (step_res_ok hp hs)

/-- `hp` is a check of the 7 rows of the column `i`, each with the END_STREAM row of its target state -/
theorem endEvs_of_row {s s' s2 : Shape} {i : StreamInputs} {evs evs2 : List SEv}
    (hp : (rowRefuses s.state i || (rowRes (tgt s.state i) .RECV_END_STREAM).all ProcRes.reports) = true)
    (hs : stepShape s i = (.ok evs, s')) (h2 : stepShape s' .RECV_END_STREAM = (.ok evs2, s2)) : evs2 ≠ [] := by
  rintro rfl
  have h := step_then_res hp hs
  rw [h2] at h
  exact Bool.noConfusion h

theorem oneEv_of_row {p : SEv → Bool} {s s' : Shape} {i : StreamInputs} {evs : List SEv}
    (hp : (rowRes s.state i).all (fun r => match r with | .ok [e] => p e | .ok _ => false | _ => true) = true)
    (hs : stepShape s i = (.ok evs, s')) : ∃ e, evs = [e] ∧ p e = true := by
  have h := step_res_ok hp hs
  match evs, h with
  | [e], h => exact ⟨e, rfl, h⟩

theorem firstEv_of_row {ev e : SEv} {s s' : Shape} {i : StreamInputs} {rest : List SEv}
    (hp : (rowRes s.state i).all (fun r => match r with | .ok (e :: _) => e == ev | _ => true) = true)
    (hs : stepShape s i = (.ok (e :: rest), s')) : e = ev :=
  beq_iff_eq.mp (step_res_ok hp hs)

end H2
