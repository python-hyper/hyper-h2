/-
  The public calls that open no stream preserve the connection invariant `WF` (and leave the frame buffer alone): with
  `receiveData_ok` this makes `WF` an invariant of every history of those calls and `receive_data`.
-/
import H2.Proofs.ApiOk
import H2.Proofs.RecvWF
namespace H2
open H2.Gen H2.Conn

/-- `WF`, and the frame buffer is `fb0` (`C17.Inv` is `WF` and a condition on the frame buffer, which these calls do
    not touch) -/
def KW (fb0 : FrameBuffer) (c : Conn) : Prop := WF c ∧ c.fb = fb0

/-- what `KW` reads -/
theorem KW.of_eq {fb0 : FrameBuffer} {c c' : Conn} (h : KW fb0 c) (hls : c'.localSettings = c.localSettings := by rfl)
    (hrs : c'.remoteSettings = c.remoteSettings := by rfl) (hmo : c'.maxOutFrame = c.maxOutFrame := by rfl)
    (hhp : c'.hp = c.hp := by rfl) (hcs : c'.cstate = c.cstate := by rfl) (hss : c'.streams = c.streams := by rfl)
    (hfb : c'.fb = c.fb := by rfl) : KW fb0 c' :=
  ⟨⟨h.1.1.congr hls hrs hmo hhp, by rw [hcs, hss]; exact h.1.2⟩, hfb.trans h.2⟩

/-- `process_input` never takes a stream back to IDLE -/
theorem prims_notIdle : StreamPrims (fun st => st.sm.state ≠ .IDLE) where
  processInput i := ⟨fun st hst => by
    rw [wp_processInput_eq]
    have : (st.withShape (stepShape st.sm.sh i).2).sm.state ≠ .IDLE :=
      fun h => hst (stepShape_idle (s := st.sm.sh) (i := i) h).1
    split <;> (rename_i heq; rw [heq] at this; exact this)⟩

/-- the family of stream predicates (the `F` of `CallPrims`) that `KW` needs stream methods to keep: "not IDLE" -/
abbrev KWF (S : Stream → Prop) : Prop := S = fun st => st.sm.state ≠ .IDLE

theorem calls_KW (fb0 : FrameBuffer) : CallPrims (KW fb0) KWF where
  streams := by rintro S rfl; exact ⟨prims_notIdle, fun _ _ h => h⟩
  connInput i := ⟨fun c h => by
    rw [wp_connInput_eq]
    split
    · rename_i t hct
      refine ⟨⟨h.1.1.congr, fun ht => h.1.2 fun hc => ?_⟩, h.2⟩
      rw [hc] at hct; exact ht (conn_closed_absorbing _ _ hct)
    · exact ⟨⟨h.1.1.congr, fun hc => absurd rfl hc⟩, h.2⟩⟩
  withStream sid m hm := Keeps.withStream_setStream sid m fun c st h hl =>
    ⟨⟨wfb_setStream h.1.1, fun hc =>
      have hni := h.1.2 hc
      notIdle_setStream hni ((hm _ rfl).state st (notIdle_lookup hni hl))⟩, h.2⟩
  openStreams r := .of_state fun c h =>
    ⟨⟨h.1.1.congr, fun hc e he => h.1.2 hc e (List.mem_filter.mp he).1⟩, h.2⟩
  processed n := Keeps.onConnWM_of (fun _ _ h => h.of_eq) _
  opened n := Keeps.onConnWM_of (fun _ _ h => h.of_eq) _
  prepare := Keeps.prepare_of fun _ _ _ h => h.of_eq
  setOut _ _ h := h.of_eq
  updateLocal items hval c h :=
    ⟨⟨⟨(update_spec c.localSettings items h.1.1.ls).1, h.1.1.rs, h.1.1.mof, h.1.1.dec,
      ls32_update c.localSettings items h.1.1.ls32 fun kv hkv => by
        have := validateSettingsList_ok items hval kv hkv; omega⟩, h.1.2⟩, h.2⟩

end H2
