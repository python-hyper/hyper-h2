/-
  The stream table stays in order: every stream object is filed under its own id, ids are positive 31-bit numbers, every
  per-stream copy of the peer's MAX_FRAME_SIZE equals the connection's, and the two high-water marks are not negative.
  No stream method changes a stream's id or its frame-size copy (`prims_ident`); `SO` survives the building blocks of
  the frame handlers, hence `receive_data` for every byte string, and those of the public calls that open no stream.
-/
import H2.Proofs.Stable
namespace H2
open H2.Gen H2.Conn

/-! ### stream methods keep the stream's identity and frame-size limit -/

/-- what no stream method changes: the stream id and the per-stream copy of the peer's MAX_FRAME_SIZE -/
def Stream.ident (st : Stream) : Int × Int := (st.sm.sid, st.maxOutFrame)

def KeepsId {α : Type} (m : M Stream α) : Prop :=
  ∀ st, wp m (fun _ st' => st'.ident = st.ident) (fun _ st' => st'.ident = st.ident) st

theorem prims_ident (v : Int × Int) : StreamPrims (fun st => st.ident = v) := StreamPrims.ofField Stream.ident v

theorem kid_modify (f : Stream → Stream) (hf : ∀ s, (f s).ident = s.ident) : KeepsId (modifyS f) := fun st => hf st
theorem kid_locallyPushed : KeepsId Stream.locallyPushed := Keeps.field fun v => (prims_ident v).locallyPushed
theorem kid_upgrade (cl : Bool) : KeepsId (Stream.upgrade cl) := Keeps.field fun v => (prims_ident v).upgrade cl

/-! ### the stream table: every entry is filed under its own id, ids are legal, frame-size copies are current -/

def StreamOk (mo : Int) (e : Int × Stream) : Prop :=
  e.2.sm.sid = e.1 ∧ 0 < e.1 ∧ e.1 ≤ 2147483647 ∧ e.2.maxOutFrame = mo

def SO (c : Conn) : Prop := (∀ e ∈ c.streams, StreamOk c.maxOutFrame e) ∧ 0 ≤ c.highestIn ∧ 0 ≤ c.highestOut

theorem StreamOk.congr_ident {mo k : Int} {st st' : Stream} (h : StreamOk mo (k, st)) (hid : st'.ident = st.ident) :
    StreamOk mo (k, st') :=
  ⟨(congrArg Prod.fst hid).trans h.1, h.2.1, h.2.2.1, (congrArg Prod.snd hid).trans h.2.2.2⟩

theorem so_setStream (c : Conn) (sid : Int) (st st' : Stream) (h : SO c) (hl : c.streams.lookup sid = some st)
    (hid : st'.ident = st.ident) : SO (setStream c sid st') := by
  refine ⟨fun e he => ?_, h.2.1, h.2.2⟩
  rcases mem_setStream c sid st' e he with rfl | ⟨he0, _⟩
  · exact (h.1 _ (lookup_mem _ _ _ hl)).congr_ident hid
  · exact h.1 _ he0

/-! ### creating streams -/

theorem so_putStream (c : Conn) (sid : Int) (st : Stream) (h : SO c) (hst : StreamOk c.maxOutFrame (sid, st)) :
    SO (putStream sid st c).2 := by
  rw [putStream_eq]
  exact ⟨fun e he => (mem_putStream c sid st e he).elim (· ▸ hst) (h.1 e), h.2.1, h.2.2⟩

theorem so_remoteOther (ch : List (Int × Option Int × Int)) (c : Conn) (h : SO c) : SO (remoteOtherChanges ch c) := by
  rw [remoteOtherChanges_eq]
  cases findChange ch SettingCodes.MAX_FRAME_SIZE with
  | none => exact h
  | some p =>
    -- the connection's limit and every stream's copy of it get the same new value
    refine ⟨?_, h.2.1, h.2.2⟩
    intro e he
    obtain ⟨e0, he0, rfl⟩ := List.mem_map.mp he
    have := h.1 e0 he0
    exact ⟨this.1, this.2.1, this.2.2.1, rfl⟩

/-! ### the building blocks -/

/-- the family of stream predicates (the `F` of `RecvPrims` / `CallPrims`) that `SO` needs stream methods to keep:
    every value of `ident` -/
abbrev SOF (S : Stream → Prop) : Prop := ∃ v, S = fun st => st.ident = v

theorem so_openStreams (r : Int) : Keeps SO (openStreams r) :=
  .of_state fun _ h => ⟨fun e he => h.1 e (List.mem_filter.mp he).1, h.2.1, h.2.2⟩

theorem so_base : BasePrims SO SOF where
  streams := by rintro S ⟨v, rfl⟩; exact ⟨prims_ident v, fun _ _ h => h⟩
  withStream sid m hm := Keeps.withStream_setStream sid m fun c st h hl =>
    so_setStream c sid st _ h hl ((hm _ ⟨st.ident, rfl⟩).state st rfl)

theorem prims_SO : RecvPrims SO SOF where
  toBasePrims := so_base
  openStreams := so_openStreams
  beginNewStream := Keeps.beginNewStream_of
    (fun c sid ow wm h _ hlt hle =>
      have hp := so_putStream c sid _ h ⟨rfl, by have := h.2.2; omega, hle, rfl⟩
      ⟨hp.1, hp.2.1, by show 0 ≤ sid; have := h.2.2; omega⟩)
    (fun c sid ow wm h _ hlt hle =>
      have hp := so_putStream c sid _ h ⟨rfl, by have := h.2.1; omega, hle, rfl⟩
      ⟨hp.1, by show 0 ≤ sid; have := h.2.1; omega, hp.2.2⟩)
  refusePushedStream := Keeps.refusePushedStream_of fun c p h _ hlt => ⟨h.1, by show 0 ≤ p; have := h.2.1; omega, h.2.2⟩
  remoteWindowChange ch := by
    have (o n : Int) : Keeps SO (flowControlChangeFromSettings o n) := .of_state fun c h =>
      ⟨(fcc_go_all (StreamOk c.maxOutFrame) (n - o) (fun _ _ _ _ h => h) [] c.streams h.1).1, h.2.1, h.2.2⟩
    unfold remoteWindowChange; keeps_walk [this _ _]
  localWindowChange ch := by
    have (o n : Int) : Keeps SO (inboundFlowControlChangeFromSettings o n) := .of_state fun c h =>
      ⟨(ifcc_go_all (StreamOk c.maxOutFrame) (n - o) (fun _ st hx => hx.congr_ident
        (((prims_ident st.ident).inboundFlowControlChange (n - o)).state st rfl)) [] c.streams h.1).1, h.2.1, h.2.2⟩
    unfold localWindowChange; keeps_walk [this _ _]
  remoteOtherChanges := so_remoteOther

theorem calls_SO : CallPrims SO SOF where
  toBasePrims := so_base
  openStreams := so_openStreams

theorem receiveData_so (d : Bytes) (c : Conn) (h : SO c) : SO (receiveData d c).2 :=
  stable_receiveData (prims_SO.stable calls_SO.prepare (fun _ h => h) (fun _ _ h => h) fun _ _ h => h) d c h

theorem so_init (cfg : Config) : SO (Conn.init cfg) := by
  cases hc : cfg.client <;> simp [SO, Conn.init, hc]

end H2
