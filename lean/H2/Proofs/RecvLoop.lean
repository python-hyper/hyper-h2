/-
  C21, receive loop.  `loop` is the frame loop with the fuel `receive_data` gives it; `loop_eq` unfolds it by one frame
  and `loop_more` is all of chunking in one equation: bytes appended behind the buffer change nothing until the loop
  stops for want of data, and then it goes on from there.  `recvLoop_inv`: what survives the two ways in which the loop
  writes the frame buffer, the loop keeps.
-/
import H2.Proofs.Chunking
import H2.Model.ConnRecv
import H2.Proofs.Wp
namespace H2
namespace FrameBuffer

theorem next_zero (fb : FrameBuffer) : next 0 fb = (.ok none, fb) := rfl

def setPre (fb : FrameBuffer) (p : Bytes) : FrameBuffer := { fb with preamble := p }

theorem next1_setPre (fb : FrameBuffer) (p : Bytes) :
    next1 (fb.setPre p) = ((next1 fb).1, (next1 fb).2.setPre p) := by
  rw [next1_eq, next1_eq]
  simp only [setPre]
  cases peel fb.data fb.maxFrameSize with
  | error e => rfl
  | ok o => cases o <;> rfl

theorem next_setPre (f : Nat) (fb : FrameBuffer) (p : Bytes) :
    next f (fb.setPre p) = ((next f fb).1, (next f fb).2.setPre p) := by
  induction f generalizing fb with
  | zero => rfl
  | succ n ih =>
    rw [next_succ, next_succ, next1_setPre]
    cases hn : next1 fb with
    | mk r fb1 =>
      cases r with
      | error e => rfl
      | ok o => cases o with
        | none => rfl
        | frame f => rfl
        | skip => simp only; exact ih fb1

end FrameBuffer

namespace Conn
open FrameBuffer

def moreFb (c : Conn) (x : Bytes) : Conn := { c with fb := c.fb.more x }

theorem hideFb_eq {α} (m : CM α) (c : Conn) :
    hideFb m c = ((m { c with fb := {} }).1, { (m { c with fb := {} }).2 with fb := c.fb }) := rfl

theorem recvLoop_succ (fuel : Nat) (evs : List Event) (c : Conn) :
    recvLoop (fuel + 1) evs c =
      (match FrameBuffer.next (c.fb.data.length + 1) c.fb with
       | (.error e, fb) => (.error e, { c with fb := fb })
       | (.ok none, fb) => (.ok evs, { c with fb := fb })
       | (.ok (some rf), fb) =>
         match hideFb (receiveFrame rf) { c with fb := fb } with
         | (.error e, c) => (.error e, c)
         | (.ok es, c) => recvLoop fuel (evs ++ es) { c with fb := { c.fb with maxFrameSize := c.maxInFrame } }) := rfl

/-- one turn of the loop: the handler runs on the empty buffer and gets the iterator's buffer back -/
theorem recvLoop_step (fuel : Nat) (evs : List Event) (c : Conn) :
    recvLoop (fuel + 1) evs c =
      (match nxt c.fb with
       | (.error e, fb) => (.error e, { c with fb := fb })
       | (.ok none, fb) => (.ok evs, { c with fb := fb })
       | (.ok (some rf), fb) =>
         match receiveFrame rf { c with fb := {} } with
         | (.error e, c') => (.error e, { c' with fb := fb })
         | (.ok es, c') => recvLoop fuel (evs ++ es) { c' with fb := { fb with maxFrameSize := c'.maxInFrame } }) := by
  rw [recvLoop_succ, nxt]
  split
  · rfl
  · rfl
  · rename_i rf fb _
    rw [hideFb_eq]
    cases receiveFrame rf { c with fb := {} } with
    | mk r c' => cases r <;> rfl

theorem wp_recvLoop_succ {Q : List Event → Conn → Prop} {E : Exc → Conn → Prop} (fuel : Nat) (evs : List Event)
    (c : Conn) :
    wp (recvLoop (fuel + 1) evs) Q E c =
      (match next (c.fb.data.length + 1) c.fb with
       | (.error e, fb) => E e { c with fb := fb }
       | (.ok none, fb) => Q evs { c with fb := fb }
       | (.ok (some rf), fb) =>
         wp (receiveFrame rf)
           (fun es c' => wp (recvLoop fuel (evs ++ es)) Q E { c' with fb := { fb with maxFrameSize := c'.maxInFrame } })
           (fun e c' => E e { c' with fb := fb }) { c with fb := {} }) := by
  conv => lhs; unfold wp; rw [recvLoop_step, nxt]
  cases next (c.fb.data.length + 1) c.fb with
  | mk r fb =>
    cases r with
    | error e => rfl
    | ok o =>
      cases o with
      | none => rfl
      | some rf =>
        simp only
        unfold wp
        cases receiveFrame rf { c with fb := {} } with
        | mk r2 c2 => cases r2 <;> rfl

theorem recvLoop_fuel (f1 f2 : Nat) (evs : List Event) (c : Conn)
    (h1 : c.fb.data.length < 9 * f1) (h2 : c.fb.data.length < 9 * f2) : recvLoop f1 evs c = recvLoop f2 evs c := by
  induction f1 generalizing f2 evs c with
  | zero => omega
  | succ n ih =>
    cases f2 with
    | zero => omega
    | succ m =>
      rw [recvLoop_step, recvLoop_step]
      split
      · rfl
      · rfl
      · rename_i hn
        have := next_shrinks hn
        split
        · rfl
        · exact ih _ _ _ (by simp only; omega) (by simp only; omega)

/-- the frame loop with the fuel `receive_data` gives it -/
def loop (evs : List Event) (c : Conn) : Except Exc (List Event) × Conn := recvLoop (c.fb.data.length + 1) evs c

theorem loop_eq (evs : List Event) (c : Conn) :
    loop evs c =
      (match nxt c.fb with
       | (.error e, fb) => (.error e, { c with fb := fb })
       | (.ok none, fb) => (.ok evs, { c with fb := fb })
       | (.ok (some rf), fb) =>
         match receiveFrame rf { c with fb := {} } with
         | (.error e, c') => (.error e, { c' with fb := fb })
         | (.ok es, c') => loop (evs ++ es) { c' with fb := { fb with maxFrameSize := c'.maxInFrame } }) := by
  unfold loop
  rw [recvLoop_step]
  split
  · rfl
  · rfl
  · rename_i hn
    have := next_shrinks hn
    split
    · rfl
    · exact recvLoop_fuel _ _ _ _ (by simp only; omega) (by simp only; omega)

theorem loop_more (x : Bytes) (evs : List Event) (c : Conn) :
    loop evs (c.moreFb x) = (match loop evs c with
      | (.error e, c') => (.error e, c'.moreFb x)
      | (.ok evs', c') => loop evs' (c'.moreFb x)) := by
  -- frame by frame: by `nxt_more` the iterator finds the same frame in the longer buffer, and a frame handled leaves
  -- fewer bytes; where it stops for want of data, both sides go on from the same buffer
  induction hl : c.fb.data.length using Nat.strongRecOn generalizing evs c with
  | _ n ih =>
    rw [loop_eq evs (c.moreFb x), loop_eq evs c]
    simp only [moreFb]
    rw [nxt_more x c.fb]
    cases hn : nxt c.fb with
    | mk r fb =>
      cases r with
      | error e => rfl
      | ok o =>
        cases o with
        | none => exact (loop_eq evs (moreFb { c with fb := fb } x)).symm
        | some rf =>
          have := next_shrinks hn
          simp only
          cases receiveFrame rf { c with fb := {} } with
          | mk r2 c2 =>
            cases r2 with
            | error e => rfl
            | ok es =>
              exact ih fb.data.length (by omega) (evs ++ es)
                { c2 with fb := { fb with maxFrameSize := c2.maxInFrame } } rfl

/-- the loop writes the frame buffer in two ways: a step of the iterator (`next1_inv`), and the limit refreshed after a
    frame; what survives both, the loop keeps -/
theorem recvLoop_inv (P : FrameBuffer → Prop)
    (hstep : ∀ fb f k, P fb →
      P { fb with data := fb.data.drop k, headersBuffer := (stepHeaderBuffer fb.headersBuffer f).2 })
    (hmax : ∀ fb m, P fb → P { fb with maxFrameSize := m }) (f : Nat) (evs : List Event) (c : Conn) (h : P c.fb) :
    P (recvLoop f evs c).2.fb := by
  refine wp_state (R := fun (c : Conn) => P c.fb) ?_
  induction f generalizing evs c with
  | zero => exact h
  | succ n ih =>
    rw [wp_recvLoop_succ]
    have hp := next_inv P hstep (c.fb.data.length + 1) c.fb h
    split
    · rename_i hn; rw [hn] at hp; exact hp
    · rename_i hn; rw [hn] at hp; exact hp
    · rename_i hn
      rw [hn] at hp
      exact wp_havoc (fun _ _ => ih _ _ (hmax _ _ hp)) fun _ _ => hp

theorem recvLoop_pre (f : Nat) (evs : List Event) (c : Conn) : (recvLoop f evs c).2.fb.preamble = c.fb.preamble :=
  recvLoop_inv (fun fb => fb.preamble = c.fb.preamble) (fun _ _ _ h => h) (fun _ _ h => h) f evs c rfl

/-- the loop returns with the limit refreshed -/
theorem recvLoop_max (f : Nat) (evs : List Event) (c : Conn) (h : c.fb.maxFrameSize = c.maxInFrame) :
    wp (recvLoop f evs) (fun _ c' => c'.fb.maxFrameSize = c'.maxInFrame) (fun _ _ => True) c := by
  induction f generalizing evs c with
  | zero => exact h
  | succ n ih =>
    rw [wp_recvLoop_succ]
    have hp := next_inv (fun b => b.maxFrameSize = c.maxInFrame) (fun _ _ _ hb => hb) (c.fb.data.length + 1) c.fb h
    split
    · trivial
    · rename_i hn; rw [hn] at hp; exact hp
    · exact wp_havoc (fun _ _ => ih _ _ rfl) fun _ _ => trivial

theorem loop_evs (evs : List Event) (c : Conn) :
    loop evs c = (match loop [] c with
      | (.ok es, c') => (.ok (evs ++ es), c')
      | (.error e, c') => (.error e, c')) := by
  unfold loop
  generalize c.fb.data.length + 1 = f
  induction f generalizing evs c with
  | zero => simp [recvLoop, pure, M.pure]
  | succ n ih =>
    rw [recvLoop_step, recvLoop_step]
    split
    · rfl
    · simp
    · split
      · rfl
      · rw [ih (evs ++ _), ih ([] ++ _)]
        split <;> simp [List.append_assoc]

theorem loop_empty (evs : List Event) (c : Conn) (h : c.fb.data = []) : loop evs c = (.ok evs, c) := by
  have : next1 c.fb = (.ok .none, c.fb) := by simp [next1, h]
  rw [loop_eq, nxt_eq, this]

end Conn
end H2
