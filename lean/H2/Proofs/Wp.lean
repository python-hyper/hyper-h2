/-
  Weakest preconditions for the state+exception monad of the model, as
  *equations* usable by `simp`: `wp m Q E s` holds iff running `m` from `s`
  either returns `a` in a state satisfying `Q a` or raises `e` in a state
  satisfying `E e`.
-/
import H2.Proofs.Hoare

namespace H2

def wp {σ α : Type} (m : M σ α) (Q : α → σ → Prop) (E : Exc → σ → Prop) (s : σ) : Prop :=
  match m s with
  | (.ok a, s') => Q a s'
  | (.error e, s') => E e s'

theorem tri_iff_wp {σ α : Type} {P : σ → Prop} {m : M σ α} {Q : α → σ → Prop} {E : Exc → σ → Prop} :
    Tri P m Q E ↔ ∀ s, P s → wp m Q E s := Iff.rfl

section
variable {σ α β : Type} {Q : α → σ → Prop} {E : Exc → σ → Prop} {s : σ}

@[simp] theorem wp_pure (a : α) : wp (pure a : M σ α) Q E s = Q a s := rfl
@[simp] theorem wp_Mpure (a : α) : wp (M.pure a : M σ α) Q E s = Q a s := rfl
@[simp] theorem wp_raise (e : Exc) : wp (raise e : M σ α) Q E s = E e s := rfl
@[simp] theorem wp_getS {Q : σ → σ → Prop} : wp (getS : M σ σ) Q E s = Q s s := rfl
@[simp] theorem wp_modifyS (f : σ → σ) {Q : Unit → σ → Prop} : wp (modifyS f) Q E s = Q () (f s) := rfl
@[simp] theorem wp_setS (t : σ) {Q : Unit → σ → Prop} : wp (setS t) Q E s = Q () t := rfl

@[simp] theorem wp_bind (m : M σ α) (k : α → M σ β) {Q : β → σ → Prop} :
    wp (m >>= k) Q E s = wp m (fun a => wp (k a) Q E) E s := by
  show wp (M.bind m k) Q E s = _
  unfold wp M.bind
  cases m s with
  | mk r s' => cases r <;> rfl

@[simp] theorem wp_Mbind (m : M σ α) (k : α → M σ β) {Q : β → σ → Prop} :
    wp (M.bind m k) Q E s = wp m (fun a => wp (k a) Q E) E s := wp_bind m k

@[simp] theorem wp_ite {c : Prop} [Decidable c] (m1 m2 : M σ α) :
    wp (if c then m1 else m2) Q E s = if c then wp m1 Q E s else wp m2 Q E s := by
  split <;> rfl

@[simp] theorem wp_liftExcept (r : Except Exc α) :
    wp (liftExcept r : M σ α) Q E s = (match r with | .ok a => Q a s | .error e => E e s) := by
  cases r <;> rfl

@[simp] theorem wp_tryCatch (m : M σ α) (pred : Exc → Bool) (h : Exc → M σ α) :
    wp (tryCatch m pred h) Q E s = wp m Q (fun e s' => if pred e then wp (h e) Q E s' else E e s') s := by
  unfold wp tryCatch
  cases m s with
  | mk r s' =>
    cases r with
    | ok a => rfl
    | error e => cases hp : pred e <;> simp [hp]

@[simp] theorem wp_zoom {τ : Type} (get : σ → τ) (set : σ → τ → σ) (m : M τ α) :
    wp (zoom get set m) Q E s = wp m (fun a t => Q a (set s t)) (fun e t => E e (set s t)) (get s) := by
  unfold wp zoom
  cases m (get s) with
  | mk r t => cases r <;> rfl

theorem wp_mono {Q' : α → σ → Prop} {E' : Exc → σ → Prop} {m : M σ α}
    (h : wp m Q E s) (hq : ∀ a s', Q a s' → Q' a s') (he : ∀ e s', E e s' → E' e s') : wp m Q' E' s := by
  unfold wp at *
  cases hm : m s with
  | mk r s' =>
    cases r with
    | ok a => simp only [hm] at h ⊢; exact hq _ _ h
    | error e => simp only [hm] at h ⊢; exact he _ _ h

theorem wp_and {σ α} {m : M σ α} {Q1 Q2 : α → σ → Prop} {E1 E2 : Exc → σ → Prop} {s : σ}
    (h1 : wp m Q1 E1 s) (h2 : wp m Q2 E2 s) : wp m (fun a s' => Q1 a s' ∧ Q2 a s') (fun e s' => E1 e s' ∧ E2 e s') s := by
  unfold wp at *
  cases h : m s with
  | mk r s' =>
    rw [h] at h1 h2
    cases r with
    | ok a => exact ⟨h1, h2⟩
    | error e => exact ⟨h1, h2⟩

theorem wp_of_tri {P : σ → Prop} {Q' : α → σ → Prop} {E' : Exc → σ → Prop} {m : M σ α}
    (t : Tri P m Q E) (hp : P s) (hq : ∀ a s', Q a s' → Q' a s') (he : ∀ e s', E e s' → E' e s') : wp m Q' E' s :=
  wp_mono (t s hp) hq he

theorem wp_result {m : M σ α} (h : wp m Q E s) :
    (∀ a s', m s = (.ok a, s') → Q a s') ∧ (∀ e s', m s = (.error e, s') → E e s') := by
  unfold wp at h
  constructor
  · intro a s' hm; simp only [hm] at h; exact h
  · intro e s' hm; simp only [hm] at h; exact h

theorem wp_eq_ok {σ α : Type} {Q : α → σ → Prop} {E : Exc → σ → Prop} (m : M σ α) (s s' : σ) (a : α)
    (h : m s = (.ok a, s')) : wp m Q E s = Q a s' := by
  unfold wp; rw [h]

theorem wp_havoc {m : M σ α} (hq : ∀ a s', Q a s') (he : ∀ e s', E e s') : wp m Q E s := by
  unfold wp
  cases m s with
  | mk r s' => cases r <;> simp [hq, he]

end

/-! ### the equations as equations between predicates

  `wp_pure` and the others are stated at a state `s`, so `simp` cannot use them inside a continuation
  `fun a => wp (k a) Q E`, where no state is in sight; these forms rewrite there too. -/

section
variable {σ α β : Type} {Q : α → σ → Prop} {E : Exc → σ → Prop}
theorem wp_pure_fn (a : α) : wp (pure a : M σ α) Q E = Q a := rfl
theorem wp_bind_fn (m : M σ α) (k : α → M σ β) {Q : β → σ → Prop} :
    wp (m >>= k) Q E = wp m (fun a => wp (k a) Q E) E := funext fun _ => wp_bind m k
end

theorem wp_state {σ α : Type} {m : M σ α} {R : σ → Prop} {s : σ} (h : wp m (fun _ => R) (fun _ => R) s) : R (m s).2 := by
  unfold wp at h
  cases hm : m s with
  | mk r s' => rw [hm] at h; cases r <;> exact h

theorem ite_intro {c : Prop} [Decidable c] {A B : Prop} (ha : c → A) (hb : ¬ c → B) : (if c then A else B) := by
  split
  · exact ha ‹_›
  · exact hb ‹_›

/-- pushes `wp` through a `do` block by the equations above, down to the calls that have none -/
macro "wps" : tactic => `(tactic| simp only [wp_bind, wp_pure, wp_Mpure, wp_raise, wp_getS, wp_modifyS, wp_ite,
  wp_liftExcept, wp_tryCatch, wp_zoom])

macro "wps_at" h:ident : tactic => `(tactic| simp only [wp_bind, wp_pure, wp_Mpure, wp_raise, wp_getS, wp_modifyS, wp_ite,
  wp_liftExcept, wp_tryCatch, wp_zoom] at $h:ident)

end H2
