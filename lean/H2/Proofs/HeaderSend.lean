/-
  The send side of header blocks, up to `_build_headers_frames`: a refused list leaves the HPACK context untouched; an
  accepted one costs exactly one `encode` call, whose output is cut into fragments that fit the peer's frame size.
  What `H2Stream.send_headers` and `push_stream_in_band` make of the fragments is in Proofs/SendHeaders and
  Proofs/PushStream.
-/
import H2.Proofs.HeaderFrames
import H2.Proofs.HeaderRules
import H2.Proofs.StepShape
import H2.Proofs.Wp
namespace H2
open H2.Gen

/-- END_STREAM on the final header block is always accepted right after the block itself was: the rows of
    SEND_HEADERS that can accept end in OPEN or HALF_CLOSED_REMOTE, where SEND_END_STREAM has no side effect that
    could refuse it -/
theorem tbl_end_after_headers {sh sh' : Shape} {evs : List SEv} (hs : stepShape sh .SEND_HEADERS = (.ok evs, sh')) :
    okStep sh' .SEND_END_STREAM = true :=
  step_then_res (p := fun r => match r with | .ok _ => true | _ => false) (by cases sh.state <;> rfl) hs

/-- the HPACK context after exactly one `encode(hs)` call -/
def Hp.afterEncode (hp : Hp) (hs : List Header) : Hp := (Hp.encode hs hp).2
/-- what that `encode` call returned -/
def Hp.encoded (hp : Hp) (hs : List Header) : Bytes := match (Hp.encode hs hp).1 with | .ok b => b | .error _ => []

theorem Hp.encode_eq (hs : List Header) (hp : Hp) : Hp.encode hs hp = (.ok (hp.encoded hs), hp.afterEncode hs) := by
  unfold Hp.encoded Hp.afterEncode Hp.encode
  cases hp.encOracle <;> rfl

theorem wp_encode {Q : Bytes → Hp → Prop} {E : Exc → Hp → Prop} (hs : List Header) (hp : Hp) :
    wp (Hp.encode hs) Q E hp = Q (hp.encoded hs) (hp.afterEncode hs) := by
  unfold wp
  rw [Hp.encode_eq]

theorem Hp.afterEncode_log (hp : Hp) (hs : List Header) :
    (hp.afterEncode hs).encLog = hp.encLog ++ [EncEv.block hs] ∧ (hp.afterEncode hs).decLog = hp.decLog := by
  unfold Hp.afterEncode Hp.encode
  cases hp.encOracle <;> exact ⟨rfl, rfl⟩

/-- the list `_build_headers_frames` hands to the encoder -/
def outList (cfg : Config) (headers : List Header) : List Header := if cfg.normOut then normalizeOutbound headers else headers

/-- the fragments `_build_headers_frames` cuts an encoded block into; the first leaves room for `ov` more bytes -/
def cutBlocks (enc : Bytes) (mo ov : Int) : List Bytes :=
  enc.take (mo - ov).toNat :: chunks mo.toNat (enc.length + 1) (enc.drop (mo - ov).toNat)

theorem cutBlocks_spec (enc : Bytes) (mo ov : Int) (hm : ov < mo) (hov : 0 ≤ ov) :
    (cutBlocks enc mo ov).flatten = enc ∧ cutBlocks enc mo ov ≠ [] ∧
    (∀ b ∈ (cutBlocks enc mo ov).head?, (b.length : Int) + ov ≤ mo) ∧
    (∀ b ∈ (cutBlocks enc mo ov).tail, (b.length : Int) ≤ mo ∧ b ≠ []) := by
  unfold cutBlocks
  refine ⟨?_, by simp, ?_, ?_⟩
  · simp only [List.flatten_cons]
    rw [chunks_flatten _ (by omega) _ _ (by simp only [List.length_drop]; omega)]
    exact List.take_append_drop _ _
  · intro b hb
    simp only [List.head?_cons, Option.mem_def, Option.some.injEq] at hb
    subst hb
    simp only [List.length_take]
    omega
  · intro b hb
    simp only [List.tail_cons] at hb
    have := chunks_sizes mo.toNat (by omega) _ _ b hb
    exact ⟨by omega, this.2⟩

/-- **`_build_headers_frames`**: with validation on, a list that is not conformant (after normalisation, if that is on)
    is refused with ProtocolError before the encoder is touched; any other list costs exactly one `encode` call, whose
    output is cut into fragments.  The frame size is positive, so the ValueError of `range` with step 0 cannot
    happen. -/
theorem wp_buildHeaderBlocks {Q : List Bytes → Stream × Hp → Prop} {E : Exc → Stream × Hp → Prop} (cfg : Config)
    (headers : List Header) (fl : HdrFlags) (ov : Int) (s : Stream × Hp) (hm : 0 < s.1.maxOutFrame)
    (hq : (cfg.valOut = true → ConformantOut (outList cfg headers) fl) →
      Q (cutBlocks (s.2.encoded (outList cfg headers)) s.1.maxOutFrame ov) (s.1, s.2.afterEncode (outList cfg headers)))
    (he : cfg.valOut = true → ¬ ConformantOut (outList cfg headers) fl → E protoErr s) :
    wp (buildHeaderBlocks cfg headers fl ov) Q E s := by
  unfold buildHeaderBlocks
  -- the `do` block shares what follows the validation
  extract_lets hs rest
  have hrest : (cfg.valOut = true → ConformantOut hs fl) → wp (rest hs) Q E s := by
    intro hc
    simp only [rest, onHp]
    wps
    rw [wp_encode, if_neg (by omega)]
    exact hq hc
  by_cases hv : cfg.valOut = true
  · rw [if_pos hv]
    wps
    by_cases hc : ConformantOut hs fl
    · rw [(validateOutbound_iff hs fl).1.mpr hc]
      exact hrest fun _ => hc
    · rw [(validateOutbound_iff hs fl).2 hc]
      exact he hv hc
  · rw [if_neg hv]
    wps
    exact hrest fun h => absurd h hv

theorem buildHeaderBlocks_all (cfg : Config) (headers : List Header) (fl : HdrFlags) (ov : Int) (s : Stream × Hp)
    (hm : ov < s.1.maxOutFrame) (hov : 0 ≤ ov) :
    wp (buildHeaderBlocks cfg headers fl ov)
      (fun blocks s' => s' = (s.1, s.2.afterEncode (outList cfg headers)) ∧
          blocks.flatten = s.2.encoded (outList cfg headers) ∧ blocks ≠ [] ∧
          (∀ b ∈ blocks.head?, (b.length : Int) + ov ≤ s.1.maxOutFrame) ∧
          (∀ b ∈ blocks.tail, (b.length : Int) ≤ s.1.maxOutFrame ∧ b ≠ []))
      (fun e s' => s' = s ∧ e = protoErr) s :=
  wp_buildHeaderBlocks cfg headers fl ov s (by omega) (fun _ => ⟨rfl, cutBlocks_spec _ _ _ hm hov⟩) (fun _ _ => ⟨rfl, rfl⟩)

/-- `_build_hdr_validation_flags(events)` (an IndexError without events), then `_build_headers_frames` -/
theorem wp_flagsThenBlocks {Q : List Bytes → Stream × Hp → Prop} {E : Exc → Stream × Hp → Prop} (cfg : Config)
    (headers : List Header) (events : List SEv) (ov : Int) (s : Stream × Hp) (hm : ov < s.1.maxOutFrame) (hov : 0 ≤ ov)
    (hq : ∀ blocks, blocks.flatten = s.2.encoded (outList cfg headers) → blocks ≠ [] →
      (∀ b ∈ blocks.head?, (b.length : Int) + ov ≤ s.1.maxOutFrame) →
      (∀ b ∈ blocks.tail, (b.length : Int) ≤ s.1.maxOutFrame) → Q blocks (s.1, s.2.afterEncode (outList cfg headers)))
    (he : ∀ e, (events ≠ [] → e = protoErr) → E e s) :
    wp (onStream (buildHdrFlags events)) (fun fl => wp (buildHeaderBlocks cfg headers fl ov) Q E) E s := by
  unfold onStream
  wps
  cases events with
  | nil => simp only [buildHdrFlags]; wps; exact he _ fun h => absurd rfl h
  | cons e0 tl =>
    simp only [buildHdrFlags]
    wps
    refine wp_mono (buildHeaderBlocks_all cfg headers _ ov s hm hov) ?_ ?_
    · rintro blocks s' ⟨rfl, hfl, hne, h1, h2⟩
      exact hq blocks hfl hne h1 fun b hb => (h2 b hb).1
    · rintro e s' ⟨rfl, rfl⟩
      exact he _ fun _ => rfl
/-- one `encode` call, its output in the frames, and every frame carries a fragment -/
def Encoded1 (cfg : Config) (headers : List Header) (s : Stream × Hp) (frames : List Frame) (s' : Stream × Hp) : Prop :=
  s'.2 = s.2.afterEncode (outList cfg headers) ∧
  (frames.filterMap Frame.fragment?).flatten = s.2.encoded (outList cfg headers) ∧
  frames.length = (frames.filterMap Frame.fragment?).length

theorem setEndStream_fragments (fs : List Frame) :
    (setEndStream fs).filterMap Frame.fragment? = fs.filterMap Frame.fragment? ∧ (setEndStream fs).length = fs.length := by
  unfold setEndStream
  split
  · exact ⟨by simp [Frame.fragment?], by simp⟩
  · exact ⟨rfl, rfl⟩

theorem encoded1_frames (cfg : Config) (headers : List Header) (s : Stream × Hp) (st : Stream)
    (first : Bytes → Bool → Frame) (sid : Int) (blocks : List Bytes)
    (hfirst : ∀ b eh, (first b eh).fragment? = some b) (hfl : blocks.flatten = s.2.encoded (outList cfg headers)) :
    Encoded1 cfg headers s (mkHeaderFrames first sid blocks) (st, s.2.afterEncode (outList cfg headers)) :=
  ⟨rfl, by rw [mkHeaderFrames_fragments _ _ _ hfirst]; exact hfl,
    by rw [mkHeaderFrames_fragments _ _ _ hfirst, mkHeaderFrames_length]⟩

theorem Encoded1.endStream {cfg : Config} {headers : List Header} {s s' : Stream × Hp} {fs : List Frame}
    (h : Encoded1 cfg headers s fs s') : Encoded1 cfg headers s (setEndStream fs) s' := by
  obtain ⟨f1, f2⟩ := setEndStream_fragments fs
  exact ⟨h.1, by rw [f1]; exact h.2.1, by rw [f1, f2]; exact h.2.2⟩

end H2
