/-
  The two stream state machines of one stream, connected by two FIFO queues of unbounded length.

  Each side may, at any time, send a frame its own machine accepts (`maySendAt`: not the known finding D17b; an idle
  stream is opened by one side only), and the frame at the head of either queue may be delivered at any time.  `Reach`
  is the set of configurations reachable from two idle machines and empty queues.  THEOREM (`reduced_never_refused`):
  with the frame kinds that change a stream's state (HEADERS, END_STREAM, RST_STREAM, and the PUSH_PROMISE that opens a
  promised stream) — any number of them in flight in both directions, any interleaving — no delivery is ever a
  connection error.

  Method: the reachable set is finite although the queues are not bounded a priori (1 903 configurations, no queue
  longer than four, for the table of the pinned stream.py).  It is computed by a breadth-first search inside Lean
  (`R0`, at most 64 rounds), stored in a search tree keyed by `code` (injective for queues of up to seven frames), and
  the kernel checks in one run (`R0_facts`) that it contains the initial configuration, is closed under every step,
  and that every delivery from a member is fine; `Reach ⊆ R0` then is a two-line induction.  The table is
  regenerated from stream.py on every run, so the search and the check are redone whenever it changes; should the set
  outgrow the fuel or the code, `R0_facts` fails.

  The five frame kinds that never change a stream's state when accepted (DATA, WINDOW_UPDATE, PUSH_PROMISE on the
  parent, 1xx HEADERS, ALTSVC) are not in this system; PairReachMain adds them (`full_never_refused`,
  which rests on `k_neutral_send` and `R0_s3A` for them).
-/
import H2.Proofs.PairFsm
namespace H2
open H2.Gen
namespace PairFsm

/-- the frames of one stream, by what they do to the stream's state machines.  A PUSH_PROMISE is two things: on the
    promised stream it is what opens it (idle → reserved), on the parent stream it changes nothing -/
inductive Fr where
  | headers | rst | endStream | pushOpen                          -- change the stream's state
  | data | windowUpdate | pushParent | info | altsvc              -- never do (`k_neutral_send`, `R0_s3A`)
deriving DecidableEq, Repr

/-- the input the sender's machine takes -/
def Fr.send : Fr → StreamInputs
  | .headers => .SEND_HEADERS | .rst => .SEND_RST_STREAM | .endStream => .SEND_END_STREAM
  | .pushOpen => .SEND_PUSH_PROMISE | .pushParent => .SEND_PUSH_PROMISE
  | .data => .SEND_DATA | .windowUpdate => .SEND_WINDOW_UPDATE | .info => .SEND_INFORMATIONAL_HEADERS
  | .altsvc => .SEND_ALTERNATIVE_SERVICE
/-- the input the receiver's machine takes -/
def Fr.recv : Fr → StreamInputs
  | .headers => .RECV_HEADERS | .rst => .RECV_RST_STREAM | .endStream => .RECV_END_STREAM
  | .pushOpen => .RECV_PUSH_PROMISE | .pushParent => .RECV_PUSH_PROMISE
  | .data => .RECV_DATA | .windowUpdate => .RECV_WINDOW_UPDATE | .info => .RECV_INFORMATIONAL_HEADERS
  | .altsvc => .RECV_ALTERNATIVE_SERVICE

def Fr.changing : Fr → Bool
  | .headers | .rst | .endStream | .pushOpen => true
  | _ => false

def changing : List Fr := [.headers, .rst, .endStream, .pushOpen]
def neutrals : List Fr := [.data, .windowUpdate, .pushParent, .info, .altsvc]

structure Cfg where
  sa : Shape
  sb : Shape
  qa : List Fr      -- sent by A, not yet delivered to B (oldest first)
  qb : List Fr
deriving DecidableEq

/-- `maySend`, plus: an idle stream is opened by one side only, while the other side is idle and has nothing in
    flight (stream ids are partitioned between the two endpoints) -/
def maySendAt (s : Shape) (f : Fr) (peerIdle : Bool) : Bool :=
  isOk (stepShape s f.send).1 && (s.state != .IDLE || peerIdle) &&
  !((f == .data || f == .endStream) && s.client == some false && !s.headersSent) &&
  -- the promised stream is opened by the PUSH_PROMISE; on a stream that exists it is a frame on the parent
  (f != .pushOpen || s.state == .IDLE) && (f != .pushParent || s.state != .IDLE)

/-- the sends of the two-machine system from `c` (`succs` adds the deliveries), each with the flag "was it fine",
    which is `true` for a send -/
def sendsOf (kinds : List Fr) (c : Cfg) : List (Cfg × Bool) :=
  (kinds.filterMap fun i =>
    if maySendAt c.sa i (c.sb.state == .IDLE && c.qb.isEmpty)
    then some ({ c with sa := (stepShape c.sa i.send).2, qa := c.qa ++ [i] }, true) else none) ++
  (kinds.filterMap fun k =>
    if maySendAt c.sb k (c.sa.state == .IDLE && c.qa.isEmpty)
    then some ({ c with sb := (stepShape c.sb k.send).2, qb := c.qb ++ [k] }, true) else none)

def deliveries (c : Cfg) : List (Cfg × Bool) :=
  (match c.qa with
   | i :: rest => [({ c with sb := (stepShape c.sb i.recv).2, qa := rest }, fine c.sb i.recv)]
   | [] => []) ++
  (match c.qb with
   | k :: rest => [({ c with sa := (stepShape c.sa k.recv).2, qb := rest }, fine c.sa k.recv)]
   | [] => [])

def succs (c : Cfg) : List (Cfg × Bool) := sendsOf changing c ++ deliveries c

def init : Cfg := { sa := {}, sb := {}, qa := [], qb := [] }

inductive Reach : Cfg → Prop
  | init : Reach init
  | step (c c' : Cfg) (ok : Bool) : Reach c → (c', ok) ∈ succs c → Reach c'

theorem mem_changing (i : Fr) : i ∈ changing ↔ i.changing = true := by cases i <;> simp [changing, Fr.changing]
theorem mem_neutrals (i : Fr) : i ∈ neutrals ↔ i.changing = false := by cases i <;> simp [neutrals, Fr.changing]

theorem mem_sendsOf {kinds : List Fr} {c : Cfg} {p : Cfg × Bool} : p ∈ sendsOf kinds c ↔
    (∃ i ∈ kinds, maySendAt c.sa i (c.sb.state == .IDLE && c.qb.isEmpty) = true ∧
      p = ({ c with sa := (stepShape c.sa i.send).2, qa := c.qa ++ [i] }, true)) ∨
    (∃ k ∈ kinds, maySendAt c.sb k (c.sa.state == .IDLE && c.qa.isEmpty) = true ∧
      p = ({ c with sb := (stepShape c.sb k.send).2, qb := c.qb ++ [k] }, true)) := by
  simp only [sendsOf, List.mem_append, List.mem_filterMap, Option.ite_none_right_eq_some, Option.some.injEq,
    eq_comm (b := p)]

theorem mem_deliveries {c : Cfg} {p : Cfg × Bool} : p ∈ deliveries c ↔
    (∃ i rest, c.qa = i :: rest ∧ p = ({ c with sb := (stepShape c.sb i.recv).2, qa := rest }, fine c.sb i.recv)) ∨
    (∃ k rest, c.qb = k :: rest ∧ p = ({ c with sa := (stepShape c.sa k.recv).2, qb := rest }, fine c.sa k.recv)) := by
  unfold deliveries
  cases c.qa <;> cases c.qb <;> simp [and_assoc]

/-! ### a search tree of configurations, keyed by a numeric code (`contains` compares the configuration found under
    the code with the one asked for; `insert` keeps the first configuration filed under a code) -/

inductive T where
  | leaf
  | node (l : T) (k : Nat) (c : Cfg) (r : T)

def T.contains : T → Nat → Cfg → Bool
  | .leaf, _, _ => false
  | .node l k c r, x, d => if x == k then decide (c = d) else if x < k then l.contains x d else r.contains x d

def T.insert : T → Nat → Cfg → T
  | .leaf, x, d => .node .leaf x d .leaf
  | .node l k c r, x, d =>
    if x == k then .node l k c r else if x < k then .node (l.insert x d) k c r else .node l k c (r.insert x d)

def T.elems : T → List Cfg
  | .leaf => []
  | .node l _ c r => l.elems ++ c :: r.elems

theorem T.contains_mem (t : T) (x : Nat) (d : Cfg) (h : t.contains x d = true) : d ∈ t.elems := by
  induction t with
  | leaf => simp [T.contains] at h
  | node l k c r ihl ihr =>
    simp only [T.contains] at h
    simp only [T.elems, List.mem_append, List.mem_cons]
    split at h
    · right; left; exact (of_decide_eq_true h).symm
    · split at h
      · left; exact ihl h
      · right; right; exact ihr h

def stCode : StreamState → Nat
  | .IDLE => 0 | .RESERVED_LOCAL => 1 | .RESERVED_REMOTE => 2 | .OPEN => 3 | .HALF_CLOSED_LOCAL => 4
  | .HALF_CLOSED_REMOTE => 5 | .CLOSED => 6
def cbCode : Option StreamClosedBy → Nat
  | none => 0 | some .SEND_END_STREAM => 1 | some .RECV_END_STREAM => 2 | some .SEND_RST_STREAM => 3
  | some .RECV_RST_STREAM => 4
def clCode : Option Bool → Nat
  | none => 0 | some true => 1 | some false => 2
def b2n (b : Bool) : Nat := if b then 1 else 0
def shCode (s : Shape) : Nat :=
  (((((stCode s.state * 3 + clCode s.client) * 2 + b2n s.headersSent) * 2 + b2n s.trailersSent) * 2
    + b2n s.headersReceived) * 2 + b2n s.trailersReceived) * 5 + cbCode s.closedBy
def frCode : Fr → Nat
  | .headers => 1 | .rst => 2 | .endStream => 3 | .pushOpen => 4 | .data => 5 | .windowUpdate => 6 | .pushParent => 7
  | .info => 8 | .altsvc => 9
def qCode (q : List Fr) : Nat := q.foldl (fun acc i => acc * 10 + frCode i) 1
def code (c : Cfg) : Nat := ((shCode c.sa * 1680 + shCode c.sb) * 100000000 + qCode c.qa) * 100000000 + qCode c.qb

/-- breadth-first search: `fuel` rounds from `frontier`, `seen` is what has been found so far -/
def bfs : Nat → List Cfg → T → T
  | 0, _, seen => seen
  | fuel+1, frontier, seen =>
    match frontier with
    | [] => seen
    | _ =>
      let (next, seen') := frontier.foldl (fun (acc : List Cfg × T) c =>
        (succs c).foldl (fun (acc : List Cfg × T) (p : Cfg × Bool) =>
          if acc.2.contains (code p.1) p.1 then acc else (p.1 :: acc.1, acc.2.insert (code p.1) p.1)) acc) ([], seen)
      bfs fuel next seen'

def R0 : T := bfs 64 [init] (T.leaf.insert (code init) init)

/-- `t` contains the start, is closed under every step, and every step from a member is fine -/
def closedGood (t : T) : Bool :=
  t.contains (code init) init &&
  t.elems.all fun c => (succs c).all fun p => p.2 && t.contains (code p.1) p.1

def goodMembers (t : T) : Bool := t.elems.all fun c => Good c.sa && Good c.sb

/-- a frame that changes nothing, sent when the sender's machine allowed it, and delivered when everything in front
    of it has been delivered: accepted, and the receiver's state stays as it is -/
def s3A (t : T) : Bool := t.elems.all fun c =>
  !c.qa.isEmpty || neutrals.all fun i =>
    !(maySendAt c.sa i true || maySendAt c.sa i false) || (fine c.sb i.recv && (stepShape c.sb i.recv).2 == c.sb)
def s3B (t : T) : Bool := t.elems.all fun c =>
  !c.qb.isEmpty || neutrals.all fun k =>
    !(maySendAt c.sb k true || maySendAt c.sb k false) || (fine c.sa k.recv && (stepShape c.sa k.recv).2 == c.sa)

/-- the same configuration seen from the other endpoint -/
def Cfg.swap (c : Cfg) : Cfg := { sa := c.sb, sb := c.sa, qa := c.qb, qb := c.qa }
def swapClosed (t : T) : Bool := t.elems.all fun c => t.contains (code c.swap) c.swap

/-- One kernel run for everything that is needed of `R0`: the search is most of the work, and the kernel runs it again
    for every statement that mentions `R0`.  `s3B` is not here: it is `s3A` seen from the other end (`R0_s3B`).
    `goodMembers`, `s3A` and `swapClosed` serve PairReachMain. -/
theorem R0_facts : (closedGood R0 && goodMembers R0 && s3A R0 && swapClosed R0) = true := by decide +kernel

theorem R0_conj : closedGood R0 = true ∧ goodMembers R0 = true ∧ s3A R0 = true ∧ swapClosed R0 = true := by
  have h := R0_facts
  simp only [Bool.and_eq_true] at h
  exact ⟨h.1.1.1, h.1.1.2, h.1.2, h.2⟩

theorem R0_closedGood : closedGood R0 = true := R0_conj.1
theorem R0_good : goodMembers R0 = true := R0_conj.2.1
theorem R0_s3A : s3A R0 = true := R0_conj.2.2.1

theorem R0_swap (c : Cfg) (hc : c ∈ R0.elems) : c.swap ∈ R0.elems :=
  T.contains_mem _ _ _ (List.all_eq_true.mp R0_conj.2.2.2 c hc)

/-- (`s3A` at `c.swap` unfolds to the body of `s3B` at `c`) -/
theorem R0_s3B : s3B R0 = true :=
  List.all_eq_true.mpr fun c hc => List.all_eq_true.mp R0_s3A c.swap (R0_swap c hc)

theorem closedGood_spec {t : T} (h : closedGood t = true) :
    init ∈ t.elems ∧ ∀ c ∈ t.elems, ∀ p ∈ succs c, p.2 = true ∧ p.1 ∈ t.elems := by
  unfold closedGood at h
  rw [Bool.and_eq_true] at h
  refine ⟨T.contains_mem _ _ _ h.1, fun c hc p hp => ?_⟩
  have h2 := List.all_eq_true.mp (List.all_eq_true.mp h.2 c hc) p hp
  rw [Bool.and_eq_true] at h2
  exact ⟨h2.1, T.contains_mem _ _ _ h2.2⟩

theorem r0_init : init ∈ R0.elems := (closedGood_spec R0_closedGood).1

theorem r0_step (c : Cfg) (p : Cfg × Bool) (hc : c ∈ R0.elems) (hp : p ∈ succs c) : p.2 = true ∧ p.1 ∈ R0.elems :=
  (closedGood_spec R0_closedGood).2 c hc p hp

theorem r0_sendA (c : Cfg) (hc : c ∈ R0.elems) (i : Fr) (hi : i.changing = true)
    (hm : maySendAt c.sa i (c.sb.state == .IDLE && c.qb.isEmpty) = true) :
    { c with sa := (stepShape c.sa i.send).2, qa := c.qa ++ [i] } ∈ R0.elems :=
  (r0_step c _ hc (List.mem_append_left _ (mem_sendsOf.mpr (.inl ⟨i, (mem_changing i).mpr hi, hm, rfl⟩)))).2

theorem r0_delA (c : Cfg) (hc : c ∈ R0.elems) (i : Fr) (rest : List Fr) (hq : c.qa = i :: rest) :
    fine c.sb i.recv = true ∧ { c with sb := (stepShape c.sb i.recv).2, qa := rest } ∈ R0.elems :=
  r0_step c _ hc (List.mem_append_right _ (mem_deliveries.mpr (.inl ⟨i, rest, hq, rfl⟩)))

theorem reach_in_R0 (c : Cfg) (h : Reach c) : c ∈ R0.elems := by
  induction h with
  | init => exact r0_init
  | step c c' ok _ hs ih => exact (r0_step c (c', ok) ih hs).2

/-- **no delivery is ever refused**: in every reachable configuration of the two-machine system — any number of
    state-changing frames in flight in both directions — every possible step is fine; for a delivery that means the
    receiving machine accepts the frame, or the stream is already closed on that side and the frame is dealt with
    quietly (`fine`): never a connection error, never a stream error on a live stream -/
theorem reduced_never_refused (c : Cfg) (h : Reach c) : ∀ p ∈ succs c, p.2 = true :=
  fun p hp => (r0_step c p (reach_in_R0 c h) hp).1

/-- spelled out for the delivery of A's oldest frame in flight -/
theorem reduced_delivery_fine (c : Cfg) (h : Reach c) (i : Fr) (rest : List Fr)
    (hq : c.qa = i :: rest) : fine c.sb i.recv = true :=
  (r0_delA c (reach_in_R0 c h) i rest hq).1

def neutralKinds : List StreamInputs :=
  [.SEND_DATA, .SEND_WINDOW_UPDATE, .SEND_PUSH_PROMISE, .SEND_INFORMATIONAL_HEADERS, .SEND_ALTERNATIVE_SERVICE]

def neutralOk (s : Shape) (i : StreamInputs) : Bool :=
  !Good s || s.state == .IDLE || !neutralKinds.contains i ||
  ((!isOk (stepShape s i).1 || (stepShape s i).2 == s) &&
   (match recvOf i with
    | some j => !fine s j || (stepShape s j).2 == s
    | none => true))

/-- sending or accepting DATA, WINDOW_UPDATE, PUSH_PROMISE (on the parent), informational HEADERS or ALTSVC leaves the
    stream's state exactly as it was -/
theorem neutral_kinds : ∀ s i, neutralOk s i = true :=
  forall_good_shape_input (fun s i hg => by simp [neutralOk, hg]) (by decide +kernel)

/-- non-vacuity: a configuration with two frames in flight (request sent and ended by the client, nothing delivered
    yet) is reachable -/
example : Reach { sa := { state := .HALF_CLOSED_LOCAL, client := some true, headersSent := true }, sb := {},
                  qa := [.headers, .endStream], qb := [] } := by
  have h1 : Reach { sa := { state := .OPEN, client := some true, headersSent := true }, sb := {},
                    qa := [.headers], qb := [] } :=
    Reach.step init _ true Reach.init (by decide)
  exact Reach.step _ _ true h1 (by decide)

end PairFsm
end H2
