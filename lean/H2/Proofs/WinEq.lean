/-
  What the WindowManager methods, `guard_increment_window` and `validate_setting` compute — the reference definitions of
  Gen/Windows, proved equal on every run to the functions regenerated from windows.py, utilities.py and settings.py
  (Gen/Bridge) — as equations: a verdict and a record update each, so that a proof can leave the definitions folded.
-/
import H2.Gen.Windows
namespace H2.Gen
namespace WindowManager

theorem init_eq {m : Int} (h : m ≤ 2147483647) :
    WindowManager.init m = .ok { max_window_size := m, current_window_size := m, bytes_processed := 0 } := by
  unfold WindowManager.init
  rw [if_pos (decide_eq_true h)]

theorem window_consumed_eq (w : WindowManager) (n : Int) :
    w.window_consumed n =
      (if 0 < n ∧ w.current_window_size - n < 0 then .error (.h2 .FlowControlError) else .ok none,
       { w with current_window_size := w.current_window_size - n }) := by
  unfold window_consumed
  simp only [decide_eq_true_eq, Bool.and_eq_true, gt_iff_lt]
  split <;> rfl

theorem window_opened_eq (w : WindowManager) (n : Int) :
    w.window_opened n =
      if 2147483647 < w.current_window_size + n then (.error (.h2 .FlowControlError), w)
      else (.ok none, { w with current_window_size := w.current_window_size + n,
                               max_window_size := max w.max_window_size (w.current_window_size + n) }) := by
  unfold window_opened
  simp only [decide_eq_true_eq, gt_iff_lt]
  split
  · rfl
  · split
    · rename_i h; rw [Int.max_eq_right (Int.le_of_lt h)]
    · rename_i h; rw [Int.max_eq_left (Int.not_lt.mp h)]

theorem maybe_update_window_eq (w : WindowManager) :
    w.maybe_update_window =
      if w.bytes_processed = 0 then (.ok none, w)
      else if (w.current_window_size = 0 ∧ min 1024 (w.max_window_size / 4) < w.bytes_processed)
          ∨ w.max_window_size / 2 ≤ w.bytes_processed then
        (.ok (some (min w.bytes_processed (w.max_window_size - w.current_window_size))),
         { w with bytes_processed := 0,
                  current_window_size :=
                    w.current_window_size + min w.bytes_processed (w.max_window_size - w.current_window_size) })
      else (.ok (some 0), w) := by
  unfold maybe_update_window
  simp only [decide_eq_true_eq, Bool.and_eq_true, gt_iff_lt, ge_iff_le, ne_eq, Bool.not_eq_true', decide_eq_false_iff_not,
    Decidable.not_not, Int.add_zero]
  split
  · rfl
  · split
    · rename_i h; rw [if_pos (Or.inl h)]
    · split
      · rename_i h; rw [if_pos (Or.inr h)]
      · rename_i h1 h2; rw [if_neg (by intro h; cases h <;> contradiction)]

theorem process_bytes_eq (w : WindowManager) (n : Int) :
    w.process_bytes n = maybe_update_window { w with bytes_processed := w.bytes_processed + n } := rfl

/-- `process_bytes` as invariants need it: it never fails, leaves the maximum alone, adds to the window exactly what it
    returns, and either hands back everything processed so far (capped at `max - current`) or keeps all of it for
    later, the latter only while it is nothing or less than half the maximum -/
theorem process_bytes_spec (w : WindowManager) (n : Int) :
    ∃ v w', w.process_bytes n = (.ok v, w') ∧ w'.max_window_size = w.max_window_size ∧
      w'.current_window_size = w.current_window_size + v.getD 0 ∧
      (w'.bytes_processed = 0 ∧ v.getD 0 = min (w.bytes_processed + n) (w.max_window_size - w.current_window_size) ∨
       w'.bytes_processed = w.bytes_processed + n ∧ v.getD 0 = 0 ∧
         (w.bytes_processed + n = 0 ∨ w.bytes_processed + n < w.max_window_size / 2)) := by
  rw [process_bytes_eq, maybe_update_window_eq]
  split
  · exact ⟨_, _, rfl, rfl, (Int.add_zero _).symm, .inr ⟨rfl, rfl, .inl ‹_›⟩⟩
  · split
    · exact ⟨_, _, rfl, rfl, rfl, .inl ⟨rfl, rfl⟩⟩
    · rename_i h
      exact ⟨_, _, rfl, rfl, (Int.add_zero _).symm, .inr ⟨rfl, rfl, .inr (Int.not_le.mp fun h' => h (.inr h'))⟩⟩

end WindowManager

theorem guard_increment_window_eq (cur incr : Int) :
    guard_increment_window cur incr =
      if cur + incr > 2147483647 then .error (.h2 .FlowControlError) else .ok (cur + incr) := by
  unfold guard_increment_window
  simp only [decide_eq_true_eq]
  rfl

theorem guard_increment_window_ok {cur incr w : Int} (h : guard_increment_window cur incr = .ok w) :
    w = cur + incr ∧ w ≤ 2147483647 := by
  rw [guard_increment_window_eq] at h
  split at h
  · cases h
  · cases h
    exact ⟨rfl, Int.not_lt.mp ‹_›⟩

/-- `_validate_setting`: the error code for the value, 0 for none; identifiers it has no rule for are accepted -/
theorem validate_setting_eq (id v : Int) :
    validate_setting id v = .ok (
      if id = 2 then (if v = 0 ∨ v = 1 then 0 else 1)
      else if id = 4 then (if 0 ≤ v ∧ v ≤ 2147483647 then 0 else 3)
      else if id = 5 then (if 16384 ≤ v ∧ v ≤ 16777215 then 0 else 1)
      else if id = 6 then (if v < 0 then 1 else 0)
      else if id = 8 then (if v = 0 ∨ v = 1 then 0 else 1)
      else 0) := by
  unfold validate_setting
  simp only [decide_eq_true_eq, Bool.not_eq_eq_eq_not, Bool.not_true, Bool.or_eq_false_iff, Bool.and_eq_false_imp,
    decide_eq_false_iff_not]
  repeat' split
  all_goals first | rfl | (exfalso; omega)

/-- `_validate_setting` on the two keys whose accepted range the receive path relies on -/
theorem validate_setting_iws (v : Int) :
    validate_setting 4 v = .ok (if 0 ≤ v ∧ v ≤ 2147483647 then 0 else 3) := by
  rw [validate_setting_eq]; rfl

theorem validate_setting_maxFrame (v : Int) :
    validate_setting 5 v = .ok (if 16384 ≤ v ∧ v ≤ 16777215 then 0 else 1) := by
  rw [validate_setting_eq]; rfl

end H2.Gen

namespace H2
open H2.Gen

/-- the two WindowManager methods that can fail, and `guard_increment_window`, fail with FlowControlError only -/
theorem wm_consumed_err (w w' : WindowManager) (n : Int) (e : PyErr) (h : w.window_consumed n = (.error e, w')) :
    e = .h2 .FlowControlError := by
  rw [WindowManager.window_consumed_eq] at h
  injection h with h _
  split at h
  · injection h with h; exact h.symm
  · cases h

theorem wm_opened_err (w w' : WindowManager) (n : Int) (e : PyErr) (h : w.window_opened n = (.error e, w')) :
    e = .h2 .FlowControlError := by
  rw [WindowManager.window_opened_eq] at h
  split at h
  · injection h with h _; injection h with h; exact h.symm
  · injection h with h _; cases h

theorem giw_err (a b : Int) (e : PyErr) (h : guard_increment_window a b = .error e) : e = .h2 .FlowControlError := by
  rw [guard_increment_window_eq] at h
  split at h
  · injection h with h; exact h.symm
  · cases h

end H2
