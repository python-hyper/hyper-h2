/-
  RFC 7540 section 8.1.2 as a rule book, and the validators of `utilities.py` characterised by it: `PseudoShape`
  (`_reject_pseudo_header_fields`), `RoleOk` (`_check_pseudo_header_field_acceptability`), `FieldOk` (the per-field
  scans), `ConformantIn` / `validateInbound_iff` (`validate_headers`), `NormalisedField` (what
  `normalize_outbound_headers` establishes), `ConformantOut` / `validateOutbound_iff` (`validate_outbound_headers`).
  Lengths are counted in bytes, as the model does: for a text value with non-ASCII characters (outside the model) the
  source's 20-character limit for short cookies is the wider one.
-/
import H2.Model.Headers
namespace H2
open H2.Gen

/-! ### `_reject_pseudo_header_fields` as three order/uniqueness rules -/

def isPseudo (h : Header) : Bool := h.name.startsWith [58]
/-- the names of the pseudo-header fields of a block, as bytes (a text name and a bytes name are the same field) -/
def pseudoNames (hs : List Header) : List HStr := (hs.filter isPseudo).map (fun h => HStr.b h.name.bs)
def allowedPseudo (n : HStr) : Bool := inSet n ALLOWED_PSEUDO_HEADER_FIELDS_b ALLOWED_PSEUDO_HEADER_FIELDS_s
/-- the value of the last `:method` pseudo-header (what `_reject_pseudo_header_fields` remembers) -/
def lastMethod (init : Option Bytes) (hs : List Header) : Option Bytes :=
  hs.foldl (fun m h => if isPseudo h && h.name.isLit (strBytes ":method") then some h.value.toBytes else m) init

structure PseudoShape (hs : List Header) : Prop where
  /-- only known pseudo-header fields -/
  known : ∀ h ∈ hs, isPseudo h = true → allowedPseudo h.name = true
  /-- all pseudo-header fields come before all regular fields -/
  first : hs.Pairwise (fun a b => isPseudo b = true → isPseudo a = true)
  /-- no pseudo-header field appears twice -/
  unique : (pseudoNames hs).Nodup

theorem pseudoNames_cons_pseudo (h : Header) (t : List Header) (hp : isPseudo h = true) :
    pseudoNames (h :: t) = HStr.b h.name.bs :: pseudoNames t := by
  simp [pseudoNames, hp]
theorem pseudoNames_cons_regular (h : Header) (t : List Header) (hp : isPseudo h = false) :
    pseudoNames (h :: t) = pseudoNames t := by
  simp [pseudoNames, hp]

theorem pseudoNames_nil_of_none (t : List Header) (h : ∀ x ∈ t, isPseudo x = false) : pseudoNames t = [] := by
  unfold pseudoNames
  rw [List.filter_eq_nil_iff.mpr]; rfl
  intro a ha; simp [h a ha]

theorem pseudoStep_regular (st : PseudoSt) (h : Header) (hp : isPseudo h = false) :
    pseudoStep st h = some { st with seenRegular := true } := by
  unfold pseudoStep
  rw [if_neg (by rw [show h.name.startsWith [58] = false from hp]; exact Bool.false_ne_true)]

theorem pseudoStep_pseudo (st : PseudoSt) (h : Header) (hp : isPseudo h = true) :
    pseudoStep st h =
      if (st.seen.contains (HStr.b h.name.bs) || st.seenRegular || !allowedPseudo h.name) = true then none
      else some { seen := st.seen ++ [HStr.b h.name.bs], seenRegular := false,
                  method := if h.name.isLit (strBytes ":method") then some h.value.toBytes else st.method } := by
  unfold pseudoStep allowedPseudo
  rw [if_pos (show h.name.startsWith [58] = true from hp)]
  cases st.seen.contains (HStr.b h.name.bs) <;> cases st.seenRegular <;>
    cases inSet h.name ALLOWED_PSEUDO_HEADER_FIELDS_b ALLOWED_PSEUDO_HEADER_FIELDS_s <;> simp
  split <;> simp

theorem foldlM_pseudoStep (hs : List Header) (st st' : PseudoSt) :
    hs.foldlM pseudoStep st = some st' ↔
      ((∀ h ∈ hs, isPseudo h = true → allowedPseudo h.name = true) ∧
       (st.seenRegular = true → ∀ h ∈ hs, isPseudo h = false) ∧
       hs.Pairwise (fun a b => isPseudo b = true → isPseudo a = true) ∧
       (∀ n ∈ pseudoNames hs, n ∉ st.seen) ∧ (pseudoNames hs).Nodup ∧
       st' = { seen := st.seen ++ pseudoNames hs,
               seenRegular := st.seenRegular || hs.any (fun h => !isPseudo h),
               method := lastMethod st.method hs }) := by
  induction hs generalizing st with
  | nil =>
    simp [pseudoNames, lastMethod, pure]
    constructor
    · intro h; cases h; rfl
    · intro h; rw [h]
  | cons h t ih =>
    rw [List.foldlM_cons]
    by_cases hp : isPseudo h = true
    · rw [pseudoStep_pseudo st h hp]
      have hmem : HStr.b h.name.bs ∈ pseudoNames (h :: t) := by
        rw [pseudoNames_cons_pseudo h t hp]; exact List.mem_cons_self
      by_cases bad : (st.seen.contains (HStr.b h.name.bs) || st.seenRegular || !allowedPseudo h.name) = true
      · rw [if_pos bad]
        simp only [Option.bind_eq_bind, Option.bind_none]
        refine ⟨nofun, ?_⟩
        rintro ⟨hk, hr, _, hnot, _⟩
        simp only [Bool.or_eq_true, Bool.not_eq_true'] at bad
        rcases bad with (hseen | hreg) | hal
        · exact absurd (by simpa using hseen) (hnot _ hmem)
        · have := hr hreg h List.mem_cons_self
          rw [hp] at this; cases this
        · rw [hk h List.mem_cons_self hp] at hal; cases hal
      · rw [if_neg bad]
        simp only [Bool.or_eq_true, Bool.not_eq_true', not_or, Bool.not_eq_true, Bool.not_eq_false] at bad
        obtain ⟨⟨hseen, hregf⟩, hal⟩ := bad
        simp only [Option.bind_eq_bind, Option.bind_some]
        rw [ih]
        simp only [pseudoNames_cons_pseudo h t hp, List.mem_cons, forall_eq_or_imp, List.pairwise_cons,
          List.nodup_cons, List.mem_append, not_or, Bool.false_eq_true, false_imp_iff, true_and,
          hregf, List.any_cons, hp, Bool.not_true, Bool.false_or, List.append_assoc, List.singleton_append, lastMethod,
          List.foldl_cons, Bool.true_and]
        have hns : HStr.b h.name.bs ∉ st.seen := by simpa using hseen
        constructor
        · rintro ⟨hk, hpw, hnot, hnd, heq⟩
          refine ⟨⟨fun _ => hal, hk⟩, ⟨fun _ _ _ => trivial, hpw⟩, ⟨hns, fun n hn => (hnot n hn).1⟩, ⟨?_, hnd⟩, heq⟩
          intro hmem; exact (hnot _ hmem).2.1 rfl
        · rintro ⟨⟨_, hk⟩, ⟨_, hpw⟩, ⟨_, hnot⟩, ⟨hnm, hnd⟩, heq⟩
          refine ⟨hk, hpw, fun n hn => ⟨hnot n hn, fun he => hnm (by rw [← he]; exact hn), by simp⟩, hnd, heq⟩
    · have hpf : isPseudo h = false := by simpa using hp
      rw [pseudoStep_regular st h hpf]
      simp only [Option.bind_eq_bind, Option.bind_some]
      rw [ih]
      simp only [pseudoNames_cons_regular h t hpf, List.mem_cons, forall_eq_or_imp, List.pairwise_cons, hpf,
        Bool.false_eq_true, false_imp_iff, true_and, List.any_cons, Bool.not_false, Bool.true_or, Bool.or_true, lastMethod,
        List.foldl_cons, Bool.false_and, if_false, forall_const, imp_false, Bool.not_eq_true]
      constructor
      · rintro ⟨hk, hnone, hpw, hnot, hnd, heq⟩
        exact ⟨hk, fun _ => hnone, ⟨hnone, hpw⟩, hnot, hnd, heq⟩
      · rintro ⟨hk, _, ⟨hnone, hpw⟩, hnot, hnd, heq⟩
        exact ⟨hk, hnone, hpw, hnot, hnd, heq⟩

/-- `_reject_pseudo_header_fields` + `_check_pseudo_header_field_acceptability` = shape rules + role rules -/
theorem pseudoOk_iff (hs : List Header) (fl : HdrFlags) :
    pseudoOk hs fl = true ↔
      PseudoShape hs ∧ pseudoAcceptable (pseudoNames hs) (lastMethod none hs) fl = true := by
  unfold pseudoOk
  constructor
  · intro h
    cases hf : hs.foldlM pseudoStep ({} : PseudoSt) with
    | none => rw [hf] at h; cases h
    | some st =>
      rw [hf] at h
      obtain ⟨hk, _, hpw, _, hnd, heq⟩ := (foldlM_pseudoStep hs {} st).mp hf
      refine ⟨⟨hk, hpw, hnd⟩, ?_⟩
      rw [heq] at h
      simpa using h
  · rintro ⟨⟨hk, hpw, hnd⟩, hacc⟩
    have := (foldlM_pseudoStep hs {} _).mpr ⟨hk, (fun h => by cases h), hpw, (fun n _ hn => by cases hn), hnd, rfl⟩
    rw [this]
    simpa using hacc

/-! ### the role rules (which pseudo-header fields a block of each type must / must not carry) -/

/-- the block carries the pseudo-header field `lit` (as bytes or as text) -/
def hasPseudo (hs : List Header) (lit : String) : Bool := hs.any fun h => isPseudo h && h.name.bs == strBytes lit

theorem seenLit_pseudoNames (hs : List Header) (lit : String) : seenLit (pseudoNames hs) lit = hasPseudo hs lit := by
  simp [seenLit, pseudoNames, hasPseudo, List.any_map, List.any_filter, Function.comp_def, HStr.b]

theorem tables_as_literals :
    REQUEST_ONLY_HEADERS_b = [strBytes ":authority", strBytes ":method", strBytes ":path", strBytes ":protocol", strBytes ":scheme"] ∧
    REQUEST_ONLY_HEADERS_s = REQUEST_ONLY_HEADERS_b ∧
    RESPONSE_ONLY_HEADERS_b = [strBytes ":status"] ∧ RESPONSE_ONLY_HEADERS_s = RESPONSE_ONLY_HEADERS_b ∧
    CONNECT_REQUEST_ONLY_HEADERS_b = [strBytes ":protocol"] ∧ CONNECT_REQUEST_ONLY_HEADERS_s = CONNECT_REQUEST_ONLY_HEADERS_b ∧
    ALLOWED_PSEUDO_HEADER_FIELDS_b = [strBytes ":authority", strBytes ":method", strBytes ":path", strBytes ":protocol",
      strBytes ":scheme", strBytes ":status"] ∧
    ALLOWED_PSEUDO_HEADER_FIELDS_s = ALLOWED_PSEUDO_HEADER_FIELDS_b ∧
    CONNECTION_HEADERS_b = [strBytes "connection", strBytes "keep-alive", strBytes "proxy-connection",
      strBytes "transfer-encoding", strBytes "upgrade"] ∧
    CONNECTION_HEADERS_s = CONNECTION_HEADERS_b ∧
    SECURE_HEADERS_b = [strBytes "authorization", strBytes "proxy-authorization"] ∧ SECURE_HEADERS_s = SECURE_HEADERS_b ∧
    WHITESPACE = [9, 10, 11, 12, 13, 32] := by decide +kernel

theorem tables.allowedPseudo_s : ALLOWED_PSEUDO_HEADER_FIELDS_s = ALLOWED_PSEUDO_HEADER_FIELDS_b :=
  tables_as_literals.2.2.2.2.2.2.2.1

theorem tables.connection :
    CONNECTION_HEADERS_b = [strBytes "connection", strBytes "keep-alive", strBytes "proxy-connection",
      strBytes "transfer-encoding", strBytes "upgrade"] ∧ CONNECTION_HEADERS_s = CONNECTION_HEADERS_b :=
  ⟨tables_as_literals.2.2.2.2.2.2.2.2.1, tables_as_literals.2.2.2.2.2.2.2.2.2.1⟩

theorem tables.secure :
    SECURE_HEADERS_b = [strBytes "authorization", strBytes "proxy-authorization"] ∧ SECURE_HEADERS_s = SECURE_HEADERS_b :=
  ⟨tables_as_literals.2.2.2.2.2.2.2.2.2.2.1, tables_as_literals.2.2.2.2.2.2.2.2.2.2.2.1⟩

theorem tables.whitespace : WHITESPACE = [9, 10, 11, 12, 13, 32] := tables_as_literals.2.2.2.2.2.2.2.2.2.2.2.2

theorem inSet_same (n : HStr) (l : List Bytes) : inSet n l l = l.contains n.bs := by
  unfold inSet; split <;> rfl

theorem any_inSet (hs : List Header) (l : List Bytes) :
    ((pseudoNames hs).any fun n => inSet n l l) = l.any fun lit => hs.any fun h => isPseudo h && h.name.bs == lit := by
  rw [Bool.eq_iff_iff]
  simp only [inSet_same, pseudoNames, List.any_map, List.any_filter, Function.comp_def, List.contains_eq_any_beq,
    List.any_eq_true, Bool.and_eq_true, beq_iff_eq]
  constructor
  · rintro ⟨h, hh, hp, lit, hl, he⟩; exact ⟨lit, hl, h, hh, hp, he⟩
  · rintro ⟨lit, hl, h, hh, hp, he⟩; exact ⟨h, hh, hp, lit, hl, he⟩

/-- role rules by block type: trailers carry no pseudo-header fields; responses carry `:status` and no request
    pseudo-header field; requests (and pushed requests) carry `:method`, `:scheme`, `:path`, no `:status`, and
    `:protocol` only with the CONNECT method -/
structure RoleOk (hs : List Header) (fl : HdrFlags) : Prop where
  trailer : fl.isTrailer = true → ∀ h ∈ hs, isPseudo h = false
  response : fl.isResponse = true →
    hasPseudo hs ":status" = true ∧ hasPseudo hs ":authority" = false ∧ hasPseudo hs ":method" = false ∧
    hasPseudo hs ":path" = false ∧ hasPseudo hs ":protocol" = false ∧ hasPseudo hs ":scheme" = false
  request : fl.isResponse = false → fl.isTrailer = false →
    hasPseudo hs ":path" = true ∧ hasPseudo hs ":method" = true ∧ hasPseudo hs ":scheme" = true ∧
    hasPseudo hs ":status" = false ∧
    (hasPseudo hs ":protocol" = true → lastMethod none hs = some (strBytes "CONNECT"))

theorem pseudoNames_isEmpty (hs : List Header) : (pseudoNames hs).isEmpty = true ↔ ∀ h ∈ hs, isPseudo h = false := by
  unfold pseudoNames
  rw [List.isEmpty_iff, List.map_eq_nil_iff, List.filter_eq_nil_iff]
  constructor
  · intro h a ha; simpa using h a ha
  · intro h a ha; simp [h a ha]

theorem roleOk_iff (hs : List Header) (fl : HdrFlags) :
    RoleOk hs fl ↔
      ((fl.isTrailer = true → ∀ h ∈ hs, isPseudo h = false) ∧
       (fl.isResponse = true →
          hasPseudo hs ":status" = true ∧ hasPseudo hs ":authority" = false ∧ hasPseudo hs ":method" = false ∧
          hasPseudo hs ":path" = false ∧ hasPseudo hs ":protocol" = false ∧ hasPseudo hs ":scheme" = false) ∧
       (fl.isResponse = false → fl.isTrailer = false →
          hasPseudo hs ":path" = true ∧ hasPseudo hs ":method" = true ∧ hasPseudo hs ":scheme" = true ∧
          hasPseudo hs ":status" = false ∧
          (hasPseudo hs ":protocol" = true → lastMethod none hs = some (strBytes "CONNECT")))) :=
  ⟨fun ⟨a, b, c⟩ => ⟨a, b, c⟩, fun ⟨a, b, c⟩ => ⟨a, b, c⟩⟩

theorem hasPseudo_of_no_pseudo (hs : List Header) (h : ∀ x ∈ hs, isPseudo x = false) (lit : String) :
    hasPseudo hs lit = false := by
  unfold hasPseudo
  rw [List.any_eq_false]
  intro x hx; simp [h x hx]

theorem pseudoAcceptable_iff (hs : List Header) (fl : HdrFlags) :
    pseudoAcceptable (pseudoNames hs) (lastMethod none hs) fl = true ↔ RoleOk hs fl := by
  obtain ⟨hq, hqs, hr, hrs, hc, hcs, _⟩ := tables_as_literals
  rw [roleOk_iff]
  unfold pseudoAcceptable
  simp only [seenLit_pseudoNames]
  rw [hqs, hrs, hcs, any_inSet, any_inSet, any_inSet, hq, hr, hc]
  simp only [List.any_cons, List.any_nil, Bool.or_false]
  have e : ∀ lit : String, (hs.any fun h => isPseudo h && h.name.bs == strBytes lit) = hasPseudo hs lit := fun _ => rfl
  simp only [e]
  have hemp := pseudoNames_isEmpty hs
  obtain ⟨cl, tr, rs, pu⟩ := fl
  cases tr <;> cases rs <;> simp only [Bool.false_and, Bool.true_and, Bool.false_eq_true, if_false, Bool.not_false,
    Bool.and_self, if_true, false_imp_iff, true_and, and_true, Bool.not_true, forall_const, Bool.true_eq_false]
  · -- request
    simp only [Bool.and_eq_true, Bool.not_eq_true', Bool.or_eq_true, beq_iff_eq, and_assoc]
    cases hasPseudo hs ":protocol" <;> simp
  · -- response
    simp only [Bool.and_eq_true, Bool.not_eq_true', Bool.or_eq_false_iff]
  · -- trailers
    rw [← hemp]
    cases (pseudoNames hs).isEmpty <;> simp
  · -- both flags (never built by `_build_hdr_validation_flags`): unsatisfiable
    rw [← hemp]
    cases hne : (pseudoNames hs).isEmpty
    · simp
    · simp [hasPseudo_of_no_pseudo hs (hemp.mp hne) ":status"]

/-! ### the per-field rules -/

/-- ASCII whitespace as `utilities._reject_surrounding_whitespace` knows it: TAB LF VT FF CR SPACE -/
def WS : List UInt8 := [9, 10, 11, 12, 13, 32]

def EdgeClean (b : Bytes) : Prop :=
  (∀ c, b.head? = some c → c ∉ WS) ∧ (∀ c, b.getLast? = some c → c ∉ WS)

structure FieldOk (h : Header) : Prop where
  nonempty : h.name.bs ≠ []
  lowercase : ∀ c ∈ h.name.bs, ¬ (65 ≤ c ∧ c ≤ 90)
  nameClean : EdgeClean h.name.bs
  valueClean : EdgeClean h.value.bs
  te : h.name.bs = strBytes "te" → bytesLower h.value.bs = strBytes "trailers"
  notConnectionSpecific : h.name.bs ∉ [strBytes "connection", strBytes "keep-alive", strBytes "proxy-connection",
    strBytes "transfer-encoding", strBytes "upgrade"]

theorem isWsByte_iff (c : UInt8) : isWsByte c = true ↔ c ∈ WS := by
  unfold isWsByte
  rw [tables.whitespace]
  simp [WS]

theorem edge_iff (c : UInt8) (t : Bytes) :
    (!(isWsByte c) && !(isWsByte ((c :: t).getLastD 0))) = true ↔ EdgeClean (c :: t) := by
  obtain ⟨l, hl⟩ : ∃ l, (c :: t).getLast? = some l := ⟨_, List.getLast?_eq_some_getLast (List.cons_ne_nil c t)⟩
  simp [EdgeClean, List.getLastD_eq_getLast?, hl, ← isWsByte_iff]

theorem edgeClean_nil : EdgeClean [] := by
  constructor <;> intro c h <;> simp at h

theorem surroundOk_iff (h : Header) :
    surroundOk h = true ↔ h.name.bs ≠ [] ∧ EdgeClean h.name.bs ∧ EdgeClean h.value.bs := by
  unfold surroundOk
  cases hn : h.name.bs with
  | nil => simp
  | cons c t =>
    simp only [ne_eq, reduceCtorEq, not_false_eq_true, true_and]
    have e1 := edge_iff c t
    cases hv : h.value.bs with
    | nil =>
      simp only [List.isEmpty_nil, Bool.true_or, Bool.and_true]
      rw [e1]; exact ⟨fun h => ⟨h, edgeClean_nil⟩, fun h => h.1⟩
    | cons d u =>
      have e2 := edge_iff d u
      simp only [List.isEmpty_cons, Bool.false_or, List.headD_cons]
      rw [Bool.and_eq_true, e1, e2]

theorem hasUpper_iff (b : Bytes) : hasUpper b = false ↔ ∀ c ∈ b, ¬ (65 ≤ c ∧ c ≤ 90) := by
  unfold hasUpper
  rw [List.any_eq_false]
  constructor <;> intro h c hc <;> simpa using h c hc

theorem teOk_iff (h : Header) : teOk h = true ↔ (h.name.bs = strBytes "te" → bytesLower h.value.bs = strBytes "trailers") := by
  unfold teOk HStr.isLit HStr.lower
  simp only [Bool.or_eq_true, Bool.not_eq_true', beq_eq_false_iff_ne, beq_iff_eq]
  exact Decidable.imp_iff_not_or.symm

theorem connOk_iff (h : Header) : connOk h = true ↔
    h.name.bs ∉ [strBytes "connection", strBytes "keep-alive", strBytes "proxy-connection", strBytes "transfer-encoding",
      strBytes "upgrade"] := by
  unfold connOk
  rw [tables.connection.2, inSet_same, tables.connection.1]
  simp only [Bool.not_eq_true', List.contains_eq_mem, decide_eq_false_iff_not]

/-! ### the whole inbound rule book -/

/-- RFC 7540 section 8.1.2 for one received header block of the type given by `fl` -/
structure ConformantIn (hs : List Header) (fl : HdrFlags) : Prop where
  fields : ∀ h ∈ hs, FieldOk h
  shape : PseudoShape hs
  role : RoleOk hs fl
  /-- requests only: `:authority` or `Host` is present, and they agree when both are -/
  hostAuthority : fl.isResponse = false → fl.isTrailer = false → hostAuthorityOk hs = true
  /-- requests only: `:path` is not empty -/
  path : fl.isResponse = false → fl.isTrailer = false → ∀ h ∈ hs, h.name.bs = strBytes ":path" → h.value.bs ≠ []

theorem pathOk_iff (h : Header) : pathOk h = true ↔ (h.name.bs = strBytes ":path" → h.value.bs ≠ []) := by
  unfold pathOk HStr.isLit
  simp only [Bool.or_eq_true, Bool.not_eq_true', beq_eq_false_iff_ne, List.isEmpty_eq_false_iff]
  exact Decidable.imp_iff_not_or.symm

/-- a stage that only requests go through -/
theorem requestOnly_iff (fl : HdrFlags) (b : Bool) (P : Prop) (h : b = true ↔ P) :
    ((fl.isResponse || fl.isTrailer) || b) = true ↔ (fl.isResponse = false → fl.isTrailer = false → P) := by
  rw [← h]
  cases fl.isResponse <;> cases fl.isTrailer <;> simp

/-- a validator that returns its input when a boolean holds and raises ProtocolError otherwise -/
theorem accepts_iff_of_bool (b : Bool) (hs : List Header) (P : Prop) (key : b = true ↔ P) :
    ((if b = true then Except.ok hs else Except.error protoErr : Except Exc (List Header)) = .ok hs ↔ P) ∧
    (¬ P → (if b = true then Except.ok hs else Except.error protoErr : Except Exc (List Header)) = .error protoErr) := by
  rw [← key]
  cases b <;> simp

theorem id_of_bool {b : Bool} {hs out : List Header}
    (h : (if b = true then Except.ok hs else Except.error protoErr : Except Exc (List Header)) = .ok out) : out = hs := by
  split at h
  · cases h; rfl
  · cases h

/-- **`validate_headers` accepts exactly the conformant blocks**, returns them unchanged, and refuses every other
    block with a ProtocolError -/
theorem validateInbound_iff (hs : List Header) (fl : HdrFlags) :
    (validateInbound hs fl = .ok hs ↔ ConformantIn hs fl) ∧
    (¬ ConformantIn hs fl → validateInbound hs fl = .error protoErr) := by
  refine accepts_iff_of_bool _ hs _ ?_
  simp only [Bool.and_eq_true, List.all_eq_true, Bool.not_eq_true', hasUpper_iff, surroundOk_iff, teOk_iff, connOk_iff,
    pseudoOk_iff, pseudoAcceptable_iff, requestOnly_iff fl _ _ Iff.rfl, pathOk_iff]
  exact ⟨fun ⟨⟨⟨⟨⟨⟨hl, hsu⟩, hte⟩, hco⟩, hsh, hro⟩, hha⟩, hpa⟩ =>
      ⟨fun h hh => ⟨(hsu h hh).1, hl h hh, (hsu h hh).2.1, (hsu h hh).2.2, hte h hh, hco h hh⟩, hsh, hro, hha, hpa⟩,
    fun ⟨hf, hsh, hro, hha, hpa⟩ =>
      ⟨⟨⟨⟨⟨⟨fun h hh => (hf h hh).lowercase, fun h hh => ⟨(hf h hh).nonempty, (hf h hh).nameClean, (hf h hh).valueClean⟩⟩,
        fun h hh => (hf h hh).te⟩, fun h hh => (hf h hh).notConnectionSpecific⟩, hsh, hro⟩, hha⟩, hpa⟩⟩

theorem validateInbound_id (hs out : List Header) (fl : HdrFlags) (h : validateInbound hs fl = .ok out) : out = hs :=
  id_of_bool h

/-! ### outbound normalisation -/

theorem head_dropWhile {α} (p : α → Bool) (l : List α) (c : α) (h : (l.dropWhile p).head? = some c) : p c = false := by
  have := List.head?_dropWhile_not p l
  rwa [h] at this

theorem getLast_dropWhile {α} (p : α → Bool) (l : List α) (c : α) (h : (l.dropWhile p).getLast? = some c) :
    l.getLast? = some c := by
  obtain ⟨ys, hys⟩ := List.getLast?_eq_some_iff.mp h
  obtain ⟨s, hs⟩ := List.dropWhile_suffix (l := l) p
  exact List.getLast?_eq_some_iff.mpr ⟨s ++ ys, by rw [← hs, hys, List.append_assoc]⟩

theorem stripWith_edge (ws : UInt8 → Bool) (b : Bytes) :
    (∀ c, (stripWith ws b).head? = some c → ws c = false) ∧ (∀ c, (stripWith ws b).getLast? = some c → ws c = false) := by
  unfold stripWith
  constructor
  · intro c h
    rw [List.head?_reverse] at h
    have h2 := getLast_dropWhile ws _ c h
    rw [List.getLast?_reverse] at h2
    exact head_dropWhile ws b c h2
  · intro c h
    rw [List.getLast?_reverse] at h
    exact head_dropWhile ws _ c h

theorem mem_stripWith (ws : UInt8 → Bool) (b : Bytes) (c : UInt8) (h : c ∈ stripWith ws b) : c ∈ b := by
  unfold stripWith at h
  rw [List.mem_reverse] at h
  have h1 := (List.dropWhile_sublist ws).subset h
  rw [List.mem_reverse] at h1
  exact (List.dropWhile_sublist ws).subset h1

theorem asciiLower_not_upper (c : UInt8) : ¬ (65 ≤ asciiLowerByte c ∧ asciiLowerByte c ≤ 90) := by
  unfold asciiLowerByte
  split
  · rename_i h
    obtain ⟨h1, h2⟩ := h
    intro ⟨h3, h4⟩
    have e : (c + 32).toNat = (c.toNat + 32) % 256 := by simp [UInt8.toNat_add]
    have a1 : 65 ≤ c.toNat := by simpa using UInt8.le_iff_toNat_le.mp h1
    have a2 : c.toNat ≤ 90 := by simpa using UInt8.le_iff_toNat_le.mp h2
    have a4 : (c + 32).toNat ≤ 90 := by simpa using UInt8.le_iff_toNat_le.mp h4
    omega
  · rename_i h; exact h

theorem ws_of_WS (c : UInt8) (h : c ∈ WS) : isBytesWs c = true ∧ isStrWs c = true := by
  have : isBytesWs c = true := by
    simp only [WS, List.mem_cons, List.not_mem_nil, or_false] at h
    unfold isBytesWs
    rcases h with h | h | h | h | h | h <;> subst h <;> decide
  exact ⟨this, by unfold isStrWs; simp [this]⟩

theorem strip_edgeClean (h : HStr) : EdgeClean h.strip.bs := by
  unfold HStr.strip EdgeClean
  simp only
  obtain ⟨e1, e2⟩ := stripWith_edge (if h.isStr then isStrWs else isBytesWs) h.bs
  have key : ∀ c, (if h.isStr then isStrWs else isBytesWs) c = false → c ∉ WS := by
    intro c hc hw
    obtain ⟨w1, w2⟩ := ws_of_WS c hw
    split at hc
    · rw [w2] at hc; cases hc
    · rw [w1] at hc; cases hc
  exact ⟨fun c hc => key c (e1 c hc), fun c hc => key c (e2 c hc)⟩

/-- what `normalize_outbound_headers` guarantees for every field it lets through -/
structure NormalisedField (h : Header) : Prop where
  lowercase : ∀ c ∈ h.name.bs, ¬ (65 ≤ c ∧ c ≤ 90)
  nameClean : EdgeClean h.name.bs
  valueClean : EdgeClean h.value.bs
  notConnectionSpecific : h.name.bs ∉ [strBytes "connection", strBytes "keep-alive", strBytes "proxy-connection",
    strBytes "transfer-encoding", strBytes "upgrade"]
  /-- authorization and proxy-authorization are never indexed -/
  sensitive : h.name.bs ∈ [strBytes "authorization", strBytes "proxy-authorization"] → h.ni = true
  /-- cookies shorter than 20 bytes are never indexed (the source counts characters: for a text value the same or
      fewer) -/
  shortCookie : h.name.bs = strBytes "cookie" → h.value.bs.length < 20 → h.ni = true

theorem secureHeader_name (h : Header) : (secureHeader h).name = h.name ∧ (secureHeader h).value = h.value := by
  unfold secureHeader; split
  · exact ⟨rfl, rfl⟩
  · split <;> exact ⟨rfl, rfl⟩

theorem secureHeader_marks (h : Header) :
    (h.name.bs ∈ [strBytes "authorization", strBytes "proxy-authorization"] → (secureHeader h).ni = true) ∧
    (h.name.bs = strBytes "cookie" → h.value.bs.length < 20 → (secureHeader h).ni = true) := by
  unfold secureHeader
  rw [tables.secure.2, inSet_same, tables.secure.1]
  constructor
  · intro hm
    have : ([strBytes "authorization", strBytes "proxy-authorization"].contains h.name.bs) = true := by
      simpa [List.contains_eq_mem] using hm
    rw [if_pos this]
  · intro hc hl
    split
    · rfl
    · have : (h.name.isLit (strBytes "cookie") && decide (h.value.bs.length < 20)) = true := by
        simp [HStr.isLit, hc, hl]
      rw [if_pos this]

theorem secureHeader_normalised (k : Header) (hl : ∀ c ∈ k.name.bs, ¬ (65 ≤ c ∧ c ≤ 90)) (hn : EdgeClean k.name.bs)
    (hv : EdgeClean k.value.bs) (hc : connOk k = true) : NormalisedField (secureHeader k) := by
  obtain ⟨en, ev⟩ := secureHeader_name k
  obtain ⟨m1, m2⟩ := secureHeader_marks k
  refine ⟨?_, ?_, ?_, ?_, ?_, ?_⟩
  · rw [en]; exact hl
  · rw [en]; exact hn
  · rw [ev]; exact hv
  · rw [en]; exact (connOk_iff k).mp hc
  · rw [en]; exact m1
  · rw [en, ev]; exact m2

theorem normalizeOutbound_fields (hs : List Header) : ∀ h ∈ normalizeOutbound hs, NormalisedField h := by
  intro h hh
  unfold normalizeOutbound at hh
  simp only [List.mem_map, List.mem_filter] at hh
  obtain ⟨_, ⟨⟨_, ⟨h3, _, rfl⟩, rfl⟩, hconn⟩, rfl⟩ := hh
  refine secureHeader_normalised _ (fun c hcm => ?_) (strip_edgeClean _) (strip_edgeClean _) hconn
  -- a byte of the trimmed name is a byte of the lower-cased name
  obtain ⟨d, _, rfl⟩ := List.mem_map.mp (mem_stripWith _ _ c hcm)
  exact asciiLower_not_upper d
/-! ### outbound validation -/

/-- what `validate_outbound_headers` checks (the rules normalisation cannot establish by itself) -/
structure ConformantOut (hs : List Header) (fl : HdrFlags) : Prop where
  /-- no field name is empty (a name of whitespace only is, once trimmed) -/
  nonempty : ∀ h ∈ hs, h.name.bs ≠ []
  te : ∀ h ∈ hs, h.name.bs = strBytes "te" → bytesLower h.value.bs = strBytes "trailers"
  notConnectionSpecific : ∀ h ∈ hs, h.name.bs ∉ [strBytes "connection", strBytes "keep-alive", strBytes "proxy-connection",
    strBytes "transfer-encoding", strBytes "upgrade"]
  shape : PseudoShape hs
  role : RoleOk hs fl
  hostAuthority : fl.isResponse = false → fl.isTrailer = false → hostAuthorityOk hs = true
  path : fl.isResponse = false → fl.isTrailer = false → ∀ h ∈ hs, h.name.bs = strBytes ":path" → h.value.bs ≠ []

theorem validateOutbound_iff (hs : List Header) (fl : HdrFlags) :
    (validateOutbound hs fl = .ok hs ↔ ConformantOut hs fl) ∧
    (¬ ConformantOut hs fl → validateOutbound hs fl = .error protoErr) := by
  refine accepts_iff_of_bool _ hs _ ?_
  simp only [Bool.and_eq_true, List.all_eq_true, teOk_iff, connOk_iff, pseudoOk_iff, pseudoAcceptable_iff,
    requestOnly_iff fl _ _ Iff.rfl, pathOk_iff, Bool.not_eq_true', List.isEmpty_eq_false_iff]
  exact ⟨fun ⟨⟨⟨⟨⟨hne, hte⟩, hco⟩, hsh, hro⟩, hha⟩, hpa⟩ => ⟨hne, hte, hco, hsh, hro, hha, hpa⟩,
    fun ⟨hne, hte, hco, hsh, hro, hha, hpa⟩ => ⟨⟨⟨⟨⟨hne, hte⟩, hco⟩, hsh, hro⟩, hha⟩, hpa⟩⟩

theorem validateOutbound_id (hs out : List Header) (fl : HdrFlags) (h : validateOutbound hs fl = .ok out) : out = hs :=
  id_of_bool h

end H2
