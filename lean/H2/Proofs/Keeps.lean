/-
  `Keeps P m`: the computation `m` preserves the predicate `P`, whether it returns or raises.

  Most invariants, of a stream object or of the connection, are preserved for the same reason: every method is put
  together, by `bind`, `if`, `match` and `try`, from a few building blocks that write the state, and the invariant
  survives each block.  The walk through the methods is done once, for an arbitrary predicate: here for the methods of
  H2Stream (`StreamPrims`), in Proofs/KeepsConn for the frame handlers and the public calls of H2Connection.  An
  invariant then only has to say why the blocks that write what it reads keep it.
-/
import H2.Proofs.StreamLemmas
namespace H2
open H2.Gen H2.Conn

structure Keeps {σ α : Type} (P : σ → Prop) (m : M σ α) : Prop where
  run : ∀ s, P s → wp m (fun _ => P) (fun _ => P) s

namespace Keeps
variable {σ α β : Type} {P : σ → Prop}

theorem pure (a : α) : Keeps P (pure a : M σ α) := ⟨fun _ h => h⟩
theorem raise (e : Exc) : Keeps P (raise e : M σ α) := ⟨fun _ h => h⟩
theorem getS : Keeps P (getS : M σ σ) := ⟨fun _ h => h⟩
theorem liftExcept (r : Except Exc α) : Keeps P (liftExcept r : M σ α) := ⟨fun _ h => by cases r <;> exact h⟩
theorem modifyS {f : σ → σ} (hf : ∀ s, P s → P (f s)) : Keeps P (modifyS f) := ⟨hf⟩

theorem bind {m : M σ α} {k : α → M σ β} (hm : Keeps P m) (hk : ∀ a, Keeps P (k a)) : Keeps P (m >>= k) := ⟨fun s h => by
  rw [wp_bind]; exact wp_mono (hm.run s h) (fun a _ => (hk a).run _) (fun _ _ h' => h')⟩

/-- what is read from the state satisfies `P` -/
theorem bind_getS {k : σ → M σ β} (h : ∀ s, P s → Keeps P (k s)) : Keeps P (H2.getS >>= k) := ⟨fun s hs => by
  rw [wp_bind]; exact (h s hs).run s hs⟩

theorem ite {c : Prop} [Decidable c] {m1 m2 : M σ α} (h1 : Keeps P m1) (h2 : Keeps P m2) :
    Keeps P (if c then m1 else m2) := by split <;> assumption

theorem tryCatch {m : M σ α} {pred : Exc → Bool} {h : Exc → M σ α} (hm : Keeps P m) (hh : ∀ e, Keeps P (h e)) :
    Keeps P (tryCatch m pred h) := ⟨fun s hs => by
  rw [wp_tryCatch]
  refine wp_mono (hm.run s hs) (fun _ _ h' => h') (fun e s' h' => ?_)
  split
  · exact (hh e).run s' h'
  · exact h'⟩

theorem of_state {m : M σ α} (h : ∀ s, P s → P (m s).2) : Keeps P m := ⟨fun s hs => by
  have := h s hs
  unfold wp
  cases hm : m s with
  | mk r s' => rw [hm] at this; cases r <;> exact this⟩

theorem state {m : M σ α} (h : Keeps P m) (s : σ) (hs : P s) : P (m s).2 := wp_state (h.run s hs)

theorem cps {m : M σ α} {Q : α → σ → Prop} {E : Exc → σ → Prop} (h : Keeps P m) (s : σ) (hs : P s)
    (hq : ∀ a s', P s' → Q a s') (he : ∀ e s', P s' → E e s') : wp m Q E s :=
  wp_mono (h.run s hs) hq he

theorem and {Q : σ → Prop} {m : M σ α} (hp : Keeps P m) (hq : Keeps Q m) : Keeps (fun s => P s ∧ Q s) m :=
  .of_state fun s h => ⟨hp.state s h.1, hq.state s h.2⟩

end Keeps

/-- One syntax-directed walk through a monadic program: `bind`, `if`, `try` and `match` are taken apart, `pure`,
    `raise`, `getS` and `liftExcept` keep everything, and the listed facts close the calls of the building blocks.
    A `getS >>= k` is taken by `bind_getS`, which leaves `P` of the state read as an anonymous hypothesis (a listed fact
    may use it as `‹_›`).  The walk does not fail: a call for which no listed fact fits is left as a goal.
    (Reducible transparency: a rule that does not fit must fail at once instead of unfolding the model.) -/
syntax "keeps_walk" "[" term,* "]" : tactic
macro_rules
  | `(tactic| keeps_walk [$ts,*]) => `(tactic|
    repeat' (first
      | with_reducible (first
          | exact Keeps.pure _ | exact Keeps.raise _ | exact Keeps.getS | exact Keeps.liftExcept _
          $[| exact $ts]*
          | refine Keeps.bind_getS fun _ _ => ?_ | refine Keeps.bind ?_ fun _ => ?_ | apply Keeps.ite
          | refine Keeps.tryCatch ?_ fun _ => ?_)
      | intro _ | dsimp only | split))

/-- from a state in `R`, `m` never returns: it raises, in a state in `R` -/
structure Raises {σ α : Type} (R : σ → Prop) (m : M σ α) : Prop where
  run : ∀ s, R s → wp m (fun _ _ => False) (fun _ => R) s

namespace Raises
variable {σ α β : Type} {R : σ → Prop}

theorem raise (e : Exc) : Raises R (raise e : M σ α) := ⟨fun _ h => h⟩

theorem wp_any {m : M σ α} (h : Raises R m) {Q : α → σ → Prop} (s : σ) (hs : R s) : wp m Q (fun _ => R) s :=
  wp_mono (h.run s hs) (fun _ _ hf => hf.elim) fun _ _ h' => h'

theorem bind_left {m : M σ α} {k : α → M σ β} (hm : Raises R m) : Raises R (m >>= k) :=
  ⟨fun s h => by rw [wp_bind]; exact hm.wp_any s h⟩

theorem bind_right {m : M σ α} {k : α → M σ β} (hm : Keeps R m) (hk : ∀ a, Raises R (k a)) : Raises R (m >>= k) := ⟨fun s h => by
  rw [wp_bind]; exact wp_mono (hm.run s h) (fun a _ => (hk a).run _) (fun _ _ h' => h')⟩

theorem ite {c : Prop} [Decidable c] {m1 m2 : M σ α} (h1 : Raises R m1) (h2 : Raises R m2) :
    Raises R (if c then m1 else m2) := by split <;> assumption

theorem keeps {m : M σ α} (h : Raises R m) : Keeps R m := ⟨h.wp_any⟩

end Raises

/-- The walk for `Raises`: a `bind` is taken on the right when its first step keeps `R` by the facts `ks` (then the
    rest has to raise), otherwise its first step has to raise, by one of the facts `rs`.  So a fact missing from `ks`
    shows as an open goal `Raises R (first step)`. -/
syntax "raises_walk" "[" term,* "]" "[" term,* "]" : tactic
macro_rules
  | `(tactic| raises_walk [$ks,*] [$rs,*]) => `(tactic|
    repeat' (first
      | with_reducible (first
          | exact Raises.raise _
          $[| exact $rs]*
          | apply Raises.ite
          | (refine Raises.bind_right ?_ fun _ => ?_; focus (keeps_walk [$ks,*]; done))
          | apply Raises.bind_left)
      | intro _ | dsimp only | split))

/-! ### H2Stream methods -/

theorem Keeps.processInput_of {P : Stream → Prop} (h : ∀ st sh, P st → P (st.withShape sh)) (i : StreamInputs) :
    Keeps P (processInput i) :=
  ⟨fun st hs => wp_processInput_havoc i st (fun _ sh => h st sh hs) fun _ sh => h st sh hs⟩

theorem Keeps.buildHdrFlags {P : Stream → Prop} (evs : List SEv) : Keeps P (buildHdrFlags evs) := by
  unfold H2.buildHdrFlags; keeps_walk []

section
variable {P : Stream → Prop} {α : Type}

theorem Keeps.onStream {m : M Stream α} (h : Keeps P m) : Keeps (fun t : Stream × Hp => P t.1) (onStream m) :=
  ⟨fun t ht => by unfold H2.onStream; rw [wp_zoom]; exact h.run t.1 ht⟩

theorem Keeps.onHp (m : M Hp α) : Keeps (fun t : Stream × Hp => P t.1) (onHp m) :=
  ⟨fun t ht => by unfold H2.onHp; rw [wp_zoom]; exact wp_havoc (fun _ _ => ht) fun _ _ => ht⟩

/-- the `try:` block of `send_headers` (validation, HPACK encoding, fragmentation) only reads the stream object -/
theorem Keeps.guardedHeaderBlocks (cfg : Config) (hs : List Header) (es pp : Bool) (evs : List SEv) :
    Keeps (fun t : Stream × Hp => P t.1) (Stream.guardedHeaderBlocks cfg hs es pp evs) := by
  unfold Stream.guardedHeaderBlocks buildHeaderBlocks
  keeps_walk [(Keeps.buildHdrFlags _).onStream, Keeps.onHp _]

end

/-- `P` survives what the methods of H2Stream are made of (the two assignments to the outbound window apart, which are
    hypotheses of the two methods that make them): a step of the stream state machine, and a write to the inbound
    window manager, to the request authority or to one of the two content-length counters.  The default of a field is
    its proof for a predicate that does not read what is written.  (`send_headers` and `push_stream_in_band`, which run
    with the HPACK context beside the stream, are not walked here: Proofs/SendHeaders, Proofs/PushStream.) -/
structure StreamPrims (P : Stream → Prop) : Prop where
  processInput : ∀ i, Keeps P (processInput i) := by exact Keeps.processInput_of fun _ _ h => h
  inWM : ∀ st w, P st → P { st with inWM := w } := by exact fun _ _ h => h
  authority : ∀ st a, P st → P { st with authority := a } := by exact fun _ _ h => h
  expectedCL : ∀ st n, P st → P { st with expectedCL := n } := by exact fun _ _ h => h
  actualCL : ∀ st n, P st → P { st with actualCL := n } := by exact fun _ _ h => h

namespace StreamPrims
variable {P : Stream → Prop} (hP : StreamPrims P)
include hP

theorem onWM (f : WindowManager → WRes) : Keeps P (onWM f) :=
  .of_state fun st hs => by unfold H2.onWM; split <;> exact hP.inWM st _ hs

theorem initializeContentLength (hs : List Header) : Keeps P (Stream.initializeContentLength hs) := by
  unfold Stream.initializeContentLength; keeps_walk [Keeps.modifyS fun st => hP.expectedCL st _]

theorem trackContentLength (n : Int) (es : Bool) : Keeps P (Stream.trackContentLength n es) := by
  unfold Stream.trackContentLength; keeps_walk [Keeps.modifyS fun st => hP.actualCL st _]

theorem resetStream (code : Int) : Keeps P (Stream.resetStream code) := by
  unfold Stream.resetStream; keeps_walk [hP.processInput _]

theorem endStream : Keeps P Stream.endStream := by
  unfold Stream.endStream; keeps_walk [hP.processInput _]

theorem advertiseAltSvc (f : Bytes) : Keeps P (Stream.advertiseAltSvc f) := by
  unfold Stream.advertiseAltSvc; keeps_walk [hP.processInput _]

theorem increaseFlowControlWindow (n : Int) : Keeps P (Stream.increaseFlowControlWindow n) := by
  unfold Stream.increaseFlowControlWindow; keeps_walk [hP.processInput _, hP.onWM _]

theorem acknowledgeReceivedData (n : Int) : Keeps P (Stream.acknowledgeReceivedData n) := by
  unfold Stream.acknowledgeReceivedData; keeps_walk [hP.onWM _]

theorem locallyPushed : Keeps P Stream.locallyPushed := by
  unfold Stream.locallyPushed; keeps_walk [hP.processInput _]

theorem upgrade (cl : Bool) : Keeps P (Stream.upgrade cl) := by
  unfold Stream.upgrade; keeps_walk [hP.processInput _]

theorem receiveHeaders (cfg : Config) (hs : List Header) (es : Bool) : Keeps P (Stream.receiveHeaders cfg hs es) := by
  unfold Stream.receiveHeaders
  keeps_walk [hP.processInput _, Keeps.buildHdrFlags _, hP.initializeContentLength _, hP.trackContentLength _ _]

theorem receiveData (d : Bytes) (es : Bool) (fcl : Int) : Keeps P (Stream.receiveData d es fcl) := by
  unfold Stream.receiveData; keeps_walk [hP.processInput _, hP.onWM _, hP.trackContentLength _ _]

theorem receivePushPromiseInBand (cfg : Config) (p : Int) (hs : List Header) :
    Keeps P (Stream.receivePushPromiseInBand cfg p hs) := by
  unfold Stream.receivePushPromiseInBand; keeps_walk [hP.processInput _, Keeps.buildHdrFlags _]

theorem remotelyPushed (hs : List Header) : Keeps P (Stream.remotelyPushed hs) := by
  unfold Stream.remotelyPushed; keeps_walk [hP.processInput _, Keeps.modifyS fun st => hP.authority st _]

theorem streamReset (code : Int) : Keeps P (Stream.streamReset code) := by
  unfold Stream.streamReset; keeps_walk [hP.processInput _]

theorem receiveAltSvc (o f : Bytes) : Keeps P (Stream.receiveAltSvc o f) := by
  unfold Stream.receiveAltSvc; keeps_walk [hP.processInput _]

theorem inboundFlowControlChange (d : Int) : Keeps P (Stream.inboundFlowControlChange d) := by
  unfold Stream.inboundFlowControlChange; keeps_walk [hP.onWM _, Keeps.modifyS fun st => hP.inWM st _]

theorem sendData (d : Bytes) (es : Bool) (pad : Option Int)
    (hw : ∀ st, P st → P { st with outWin := st.outWin - (d.length + (match pad with | some p => p + 1 | none => 0)) }) :
    Keeps P (Stream.sendData d es pad) := by
  unfold Stream.sendData; keeps_walk [hP.processInput _, Keeps.modifyS hw]

theorem receiveWindowUpdate (n : Int)
    (hw : ∀ st w, guard_increment_window st.outWin n = .ok w → P st → P { st with outWin := w }) :
    Keeps P (Stream.receiveWindowUpdate n) := by
  unfold Stream.receiveWindowUpdate
  refine (hP.processInput _).bind fun evs => ⟨fun st hs => ?_⟩
  wps
  split
  · exact hs
  · cases hg : guard_increment_window st.outWin n with
    | ok w => exact hw st w hg hs
    | error e =>
      -- a FlowControlError resets the stream before it is re-raised; every other outcome leaves the state alone
      cases e <;> simp only <;> (try split) <;>
        first | exact hs | exact (by keeps_walk [hP.resetStream _] : Keeps P _).run st hs

end StreamPrims

theorem StreamPrims.ofField {τ : Type} (f : Stream → τ) (v : τ)
    (hsh : ∀ st sh, f (st.withShape sh) = f st := by exact fun _ _ => rfl)
    (hwm : ∀ st w, f { st with inWM := w } = f st := by exact fun _ _ => rfl)
    (hau : ∀ st a, f { st with authority := a } = f st := by exact fun _ _ => rfl)
    (hex : ∀ st n, f { st with expectedCL := n } = f st := by exact fun _ _ => rfl)
    (hac : ∀ st n, f { st with actualCL := n } = f st := by exact fun _ _ => rfl) :
    StreamPrims (fun st => f st = v) where
  processInput := Keeps.processInput_of fun st sh h => (hsh st sh).trans h
  inWM := fun st w h => (hwm st w).trans h
  authority := fun st a h => (hau st a).trans h
  expectedCL := fun st n h => (hex st n).trans h
  actualCL := fun st n h => (hac st n).trans h

theorem Keeps.field {σ α τ : Type} {f : σ → τ} {m : M σ α} (h : ∀ v, Keeps (fun s => f s = v) m) (s : σ) :
    wp m (fun _ s' => f s' = f s) (fun _ s' => f s' = f s) s := (h (f s)).run s rfl

end H2
