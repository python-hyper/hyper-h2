/-
  `_prepare_for_sending`, rows of the connection table, and facts about frame serialisation used by several properties.
-/
import H2.Proofs.Wp
import H2.Proofs.Bytes

namespace H2
open H2.Gen H2.Conn

/-! ### the connection state machine: rows of its table, and `process_input` -/

theorem conn_closed_only_by_goaway : ∀ s i t, connTable s i = some t → t = .CLOSED →
    (s = .CLOSED ∨ i = .SEND_GOAWAY ∨ i = .RECV_GOAWAY) := by
  intro s i t h ht
  subst ht
  cases s
  case CLOSED => exact .inl rfl
  all_goals
    cases i
    case SEND_GOAWAY => exact .inr (.inl rfl)
    case RECV_GOAWAY => exact .inr (.inr rfl)
    all_goals cases h

theorem conn_closed_absorbing : ∀ i t, connTable .CLOSED i = some t → t = .CLOSED := by
  intro i t h
  cases i <;> cases h <;> rfl

theorem conn_goaway_closes (s : ConnectionState) : connTable s .SEND_GOAWAY = some .CLOSED := by
  cases s <;> rfl
theorem conn_recvGoaway_closes (s : ConnectionState) : connTable s .RECV_GOAWAY = some .CLOSED := by
  cases s <;> rfl

def notGoaway (i : ConnectionInputs) : Prop := i ≠ .SEND_GOAWAY ∧ i ≠ .RECV_GOAWAY

theorem closed_refuses (i : ConnectionInputs) (hi : notGoaway i) : connTable .CLOSED i = none := by
  cases i <;> first | rfl | exact absurd rfl hi.1 | exact absurd rfl hi.2

theorem connTable_ne_closed {s t : ConnectionState} {i : ConnectionInputs} (h : connTable s i = some t)
    (hi : notGoaway i) : t ≠ .CLOSED := by
  intro ht
  rcases conn_closed_only_by_goaway s i t h ht with hs | hg | hg
  · rw [hs, closed_refuses i hi] at h; cases h
  · exact hi.1 hg
  · exact hi.2 hg

/-- an open connection stays as it is under every input but GOAWAY and the rows one of the two roles lacks -/
theorem connTable_open {s : ConnectionState} (h : s = .CLIENT_OPEN ∨ s = .SERVER_OPEN) (i : ConnectionInputs)
    (hi : i ∉ [.SEND_GOAWAY, .RECV_GOAWAY, .SEND_PUSH_PROMISE, .RECV_PUSH_PROMISE, .SEND_ALTERNATIVE_SERVICE] := by decide) :
    connTable s i = some s := by
  rcases h with rfl | rfl <;> cases i <;> first | rfl | exact absurd (by decide) hi

/-- the inputs that no state but CLOSED reacts to -/
theorem connTable_live {s : ConnectionState} (h : s ≠ .CLOSED) (i : ConnectionInputs)
    (hi : i ∈ [.SEND_WINDOW_UPDATE, .RECV_WINDOW_UPDATE, .SEND_PING, .RECV_PING, .SEND_SETTINGS, .RECV_SETTINGS,
      .SEND_PRIORITY, .RECV_PRIORITY] := by decide) : connTable s i = some s := by
  cases s <;> cases i <;> first | rfl | exact absurd rfl h | exact absurd hi (by decide)

theorem wp_connInput_eq {Q : Unit → Conn → Prop} {E : Exc → Conn → Prop} (c : Conn) (i : ConnectionInputs) :
    wp (connInput i) Q E c =
      match connTable c.cstate i with
      | some t => Q () { c with cstate := t }
      | none => E pErr { c with cstate := .CLOSED } := by
  unfold wp connInput
  cases connTable c.cstate i <;> rfl

theorem wp_connInput_ok {Q : Unit → Conn → Prop} {E : Exc → Conn → Prop} (c : Conn) (i : ConnectionInputs)
    (t : ConnectionState) (h : connTable c.cstate i = some t) :
    wp (connInput i) Q E c = Q () { c with cstate := t } := by
  rw [wp_connInput_eq, h]

theorem wp_connInput_err {Q : Unit → Conn → Prop} {E : Exc → Conn → Prop} (c : Conn) (i : ConnectionInputs)
    (h : connTable c.cstate i = none) :
    wp (connInput i) Q E c = E pErr { c with cstate := .CLOSED } := by
  rw [wp_connInput_eq, h]

theorem wp_connInput_stay {Q : Unit → Conn → Prop} {E : Exc → Conn → Prop} (c : Conn) (i : ConnectionInputs)
    (h : connTable c.cstate i = some c.cstate) : wp (connInput i) Q E c = Q () c :=
  wp_connInput_ok c i c.cstate h

/-! ### `_prepare_for_sending` -/

theorem wp_prepare_nil {Q : Unit → Conn → Prop} {E : Exc → Conn → Prop} (c : Conn) (hq : Q () c) :
    wp (prepareForSending []) Q E c := by
  simp only [prepareForSending, List.isEmpty_nil, if_true]
  exact hq

/-- `_prepare_for_sending(frames)` in full: struct.error before anything is written when a frame does not serialise;
    otherwise bytes and frames are appended, and then the length assertion is checked -/
theorem wp_prepare_eq {Q : Unit → Conn → Prop} {E : Exc → Conn → Prop} (frames : List Frame) (c : Conn) :
    wp (prepareForSending frames) Q E c =
      match frames.mapM Frame.serialize? with
      | none => E (.py .StructError) c
      | some bs =>
        if ∀ f ∈ frames, (f.bodyLen : Int) ≤ c.maxOutFrame
        then Q () { c with out := c.out ++ bs.foldl (· ++ ·) [], sent := c.sent ++ frames }
        else E (.py .AssertionError) { c with out := c.out ++ bs.foldl (· ++ ·) [], sent := c.sent ++ frames } := by
  unfold prepareForSending
  cases frames with
  | nil => simp  -- the early return: nothing is appended, which is what appending no bytes and no frames gives
  | cons f fs =>
    simp only [List.isEmpty_cons, Bool.false_eq_true, if_false]
    cases (f :: fs).mapM Frame.serialize? with
    | none => rfl
    | some bs => simp only; wps; simp only [List.all_eq_true, decide_eq_true_eq]

theorem wp_prepare_rule {Q : Unit → Conn → Prop} {E : Exc → Conn → Prop} (frames : List Frame) (c : Conn)
    (hq : ∀ bs, frames.mapM Frame.serialize? = some bs → (∀ f ∈ frames, (f.bodyLen : Int) ≤ c.maxOutFrame) →
      Q () { c with out := c.out ++ bs.foldl (· ++ ·) [], sent := c.sent ++ frames })
    (hs : frames.mapM Frame.serialize? = none → E (.py .StructError) c)
    (ha : ∀ bs, frames.mapM Frame.serialize? = some bs → (¬ ∀ f ∈ frames, (f.bodyLen : Int) ≤ c.maxOutFrame) →
      E (.py .AssertionError) { c with out := c.out ++ bs.foldl (· ++ ·) [], sent := c.sent ++ frames }) :
    wp (prepareForSending frames) Q E c := by
  rw [wp_prepare_eq]
  split
  · exact hs ‹_›
  · exact ite_intro (hq _ ‹_›) (ha _ ‹_›)

theorem wp_prepare {Q : Unit → Conn → Prop} {E : Exc → Conn → Prop} (frames : List Frame) (c : Conn) (bs : List Bytes)
    (hser : frames.mapM Frame.serialize? = some bs)
    (hlen : (frames.all fun f => decide ((f.bodyLen : Int) ≤ c.maxOutFrame)) = true)
    (hq : Q () { c with out := c.out ++ bs.foldl (· ++ ·) [], sent := c.sent ++ frames }) :
    wp (prepareForSending frames) Q E c := by
  rw [wp_prepare_eq, hser]
  exact (if_pos (by simpa using hlen)).mpr hq

theorem wp_prepare_single {Q : Unit → Conn → Prop} {E : Exc → Conn → Prop} (f : Frame) (c : Conn) (b : Bytes)
    (hser : f.serialize? = some b) (hlen : (f.bodyLen : Int) ≤ c.maxOutFrame) :
    wp (prepareForSending [f]) Q E c = Q () { c with out := c.out ++ b, sent := c.sent ++ [f] } := by
  rw [wp_prepare_eq]
  simp [hser, hlen]

theorem mapM_some {α β} (g : α → Option β) (l : List α) (h : ∀ a ∈ l, ∃ b, g a = some b) : ∃ bs, l.mapM g = some bs := by
  induction l with
  | nil => exact ⟨[], rfl⟩
  | cons a t ih =>
    obtain ⟨b, hb⟩ := h a (List.mem_cons_self ..)
    obtain ⟨bs, hbs⟩ := ih (fun x hx => h x (List.mem_cons_of_mem _ hx))
    exact ⟨b :: bs, by simp [List.mapM_cons, hb, hbs]⟩

def Frame.Fits (mo : Int) (f : Frame) : Prop := (∃ b, f.serialize? = some b) ∧ (f.bodyLen : Int) ≤ mo

theorem Frame.Fits.of_ser {f : Frame} {n : Nat} {mo : Int} (h : (∃ b, f.serialize? = some b) ∧ f.bodyLen = n)
    (hn : (n : Int) ≤ mo) : f.Fits mo := ⟨h.1, h.2 ▸ hn⟩

theorem wp_prepare_fits {Q : Unit → Conn → Prop} {E : Exc → Conn → Prop} (fs : List Frame) (c : Conn)
    (hf : ∀ f ∈ fs, f.Fits c.maxOutFrame) (hq : ∀ o, Q () { c with out := o, sent := c.sent ++ fs }) :
    wp (prepareForSending fs) Q E c := by
  obtain ⟨bs, hbs⟩ := mapM_some Frame.serialize? fs (fun f h => (hf f h).1)
  exact wp_prepare fs c bs hbs (List.all_eq_true.mpr fun f h => decide_eq_true (hf f h).2) (hq _)

/-! ### frames that serialise -/

/-- a frame whose body can be built serialises (type and flags are single bytes), and its body is that long -/
theorem ser_of_body (f : Frame) (body : Bytes) (hb : f.body? = some body) (ht : 0 ≤ f.typeCode ∧ f.typeCode < 256)
    (hf : f.flagByte < 256) : (∃ b, f.serialize? = some b) ∧ f.bodyLen = body.length :=
  have h := serialize?_eq f body hb ht hf
  ⟨⟨_, h.1⟩, h.2⟩

theorem body_of_serialize (f : Frame) (b : Bytes) (h : f.serialize? = some b) : ∃ body, f.body? = some body := by
  unfold Frame.serialize? at h
  cases hb : f.body? with
  | none => rw [hb] at h; simp at h
  | some body => exact ⟨body, rfl⟩

theorem prioBytes?_some (p : Prio) (hd : 0 ≤ p.dependsOn ∧ p.dependsOn ≤ 2147483647)
    (hw : 0 ≤ p.weight ∧ p.weight ≤ 255) : ∃ b, prioBytes? p = some b ∧ b.length = 5 := by
  obtain ⟨a, ha, hla⟩ := u32?_some (p.dependsOn + (if p.exclusive then 2147483648 else 0))
    (by split <;> omega) (by split <;> omega)
  obtain ⟨w, hw', hlw⟩ := u8?_some p.weight hw.1 (by omega)
  exact ⟨a ++ w, by simp [prioBytes?, ha, hw'], by simp [hla, hlw]⟩

theorem rst_serialize (sid code : Int) (hc : 0 ≤ code ∧ code < 4294967296) :
    ∃ b, (Frame.rstStream sid code).serialize? = some b ∧ (Frame.rstStream sid code).bodyLen = 4 := by
  simp [Frame.serialize?, Frame.body?, u32?, u8?, Frame.typeCode, Frame.flagByte, Frame.bodyLen, be32, hc.1, hc.2]

theorem goaway_serialize (last code : Int) (extra : Bytes) (hc : 0 ≤ code ∧ code < 4294967296) :
    ∃ b, (Frame.goaway last code extra).serialize? = some b ∧ (Frame.goaway last code extra).bodyLen = 8 + extra.length := by
  simp [Frame.serialize?, Frame.body?, u32?, u8?, Frame.typeCode, Frame.flagByte, Frame.bodyLen, be32, hc.1, hc.2]
  omega

theorem u8?_lit4 : u8? (4 : Int) = some [4] := by decide

theorem wu_serialize (sid incr : Int) :
    (∃ b, (Frame.windowUpdate sid incr).serialize? = some b) ∧ (Frame.windowUpdate sid incr).bodyLen = 4 := by
  have := ser_of_body (Frame.windowUpdate sid incr) _ rfl (by simp [Frame.typeCode]) (by simp [Frame.flagByte])
  rwa [be32_length] at this

theorem ping_serialize (ack : Bool) (d : Bytes) (h : d.length = 8) :
    (∃ b, (Frame.ping ack d).serialize? = some b) ∧ (Frame.ping ack d).bodyLen = 8 := by
  have := ser_of_body (Frame.ping ack d) d (by simp [Frame.body?, h, zeros]) (by simp [Frame.typeCode])
    (by cases ack <;> simp [Frame.flagByte])
  rwa [h] at this

theorem settings_ack_serialize : ∃ b, (Frame.settings true []).serialize? = some b ∧ (Frame.settings true []).bodyLen = 0 :=
  ⟨_, rfl, rfl⟩

/-! ### frames that fit: they serialise, and their body is within the frame size limit `mo` -/

theorem rst_fits (sid code mo : Int) (hc : 0 ≤ code ∧ code < 4294967296) (hm : 4 ≤ mo) : (Frame.rstStream sid code).Fits mo :=
  let ⟨b, hb, hl⟩ := rst_serialize sid code hc
  .of_ser ⟨⟨b, hb⟩, hl⟩ hm

theorem wu_fits (sid n mo : Int) (hm : 4 ≤ mo) : (Frame.windowUpdate sid n).Fits mo := .of_ser (wu_serialize sid n) hm

/-- the flow-controlled length of a DATA frame: payload plus padding plus the pad-length byte -/
def fclOf (data : Bytes) (pad : Option Int) : Int :=
  match pad with
  | some p => data.length + (p + 1)
  | none => data.length

theorem fclOf_eq (data : Bytes) (pad : Option Int) :
    fclOf data pad = data.length + (match pad with | some p => p + 1 | none => 0) := by
  cases pad with
  | none => exact (Int.add_zero _).symm
  | some p => rfl

theorem data_fit (sid : Int) (d : Bytes) (es : Bool) (pad : Option Int) (mo : Int)
    (hp : ∀ p, pad = some p → 0 ≤ p ∧ p ≤ 255) (hs : fclOf d pad ≤ mo) : (Frame.data sid d es pad).Fits mo := by
  cases pad with
  | none =>
    exact .of_ser (ser_of_body (Frame.data sid d es none) d (by simp [Frame.body?, zeros]) (by simp [Frame.typeCode])
      (by cases es <;> simp [Frame.flagByte])) hs
  | some p =>
    obtain ⟨h0, h1⟩ := hp p rfl
    obtain ⟨pb, hpb, hl⟩ := u8?_some p h0 (by omega)
    refine .of_ser (ser_of_body (Frame.data sid d es (some p)) (pb ++ d ++ zeros p) (by simp [Frame.body?, hpb])
      (by simp [Frame.typeCode]) (by cases es <;> simp [Frame.flagByte])) ?_
    simp only [fclOf] at hs
    simp [zeros, hl]
    omega

theorem altsvc_fits (sid : Int) (o field : Bytes) (mo : Int) (h : o.length ≤ 65535)
    (hs : (2 : Int) + ((o.length + field.length : Nat) : Int) ≤ mo) : (Frame.altsvc sid o field).Fits mo := by
  have hu : u16? (o.length : Int) = some (be16 o.length) := u16?_nat _ (by omega)
  refine .of_ser (ser_of_body (Frame.altsvc sid o field) (be16 o.length ++ o ++ field) (by simp [Frame.body?, hu])
    (by simp [Frame.typeCode]) (by simp [Frame.flagByte])) ?_
  simp [be16]
  omega

theorem priority_fits (sid : Int) (p : Prio) (mo : Int) (hd : 0 ≤ p.dependsOn ∧ p.dependsOn ≤ 2147483647)
    (hw : 0 ≤ p.weight ∧ p.weight ≤ 255) (hm : 5 ≤ mo) : (Frame.priority sid p).Fits mo := by
  obtain ⟨b, hb, hl⟩ := prioBytes?_some p hd hw
  refine .of_ser (ser_of_body (Frame.priority sid p) b hb (by simp [Frame.typeCode]) (by simp [Frame.flagByte])) ?_
  rw [hl]
  exact hm

theorem settings_serialize (items : List (Int × Int)) (h : ∀ kv ∈ items, 0 ≤ kv.2 ∧ kv.2 < 4294967296) :
    (∃ b, (Frame.settings false items).serialize? = some b) ∧ (Frame.settings false items).bodyLen = 6 * items.length := by
  have key : ∀ acc : Bytes, ∃ body, items.foldlM (fun acc (kv : Int × Int) => do
      let v ← u32? kv.2
      pure (acc ++ be16 (mask8 kv.1) ++ v)) acc = some body ∧ body.length = acc.length + 6 * items.length := by
    induction items with
    | nil => intro acc; exact ⟨acc, rfl, by simp⟩
    | cons kv rest ih =>
      intro acc
      obtain ⟨hkv, hrest⟩ := List.forall_mem_cons.mp h
      obtain ⟨b, hb, hl⟩ := u32?_some kv.2 hkv.1 hkv.2
      obtain ⟨body, h1, h2⟩ := ih hrest (acc ++ be16 (mask8 kv.1) ++ b)
      refine ⟨body, ?_, ?_⟩
      · rw [List.foldlM_cons, hb]; exact h1
      · rw [h2]; simp [hl, be16]; omega
  obtain ⟨body, h1, h2⟩ := key []
  have := ser_of_body (Frame.settings false items) body h1 (by simp [Frame.typeCode]) (by simp [Frame.flagByte])
  exact ⟨this.1, by rw [this.2, h2]; simp⟩

theorem headers_fits (sid : Int) (b : Bytes) (es eh : Bool) (prio : Option Prio) (mo : Int)
    (hp : ∀ p, prio = some p → (0 ≤ p.dependsOn ∧ p.dependsOn ≤ 2147483647) ∧ (0 ≤ p.weight ∧ p.weight ≤ 255))
    (hb : (b.length : Int) + (if prio.isSome then 5 else 0) ≤ mo) : (Frame.headers sid b es eh none prio).Fits mo := by
  have hfl : (Frame.headers sid b es eh none prio).flagByte < 256 := by
    simp only [Frame.flagByte]; cases es <;> cases eh <;> cases prio <;> simp
  cases prio with
  | none =>
    exact .of_ser (ser_of_body _ b (by simp [Frame.body?, zeros]) (by simp [Frame.typeCode]) hfl) (by simpa using hb)
  | some p =>
    obtain ⟨pb, hpb, hl⟩ := prioBytes?_some p (hp p rfl).1 (hp p rfl).2
    refine .of_ser (ser_of_body _ (pb ++ b) (by simp [Frame.body?, hpb, zeros]) (by simp [Frame.typeCode]) hfl) ?_
    simp only [List.length_append, hl, Option.isSome_some, if_true] at hb ⊢
    omega

theorem continuation_fits (sid : Int) (b : Bytes) (eh : Bool) (mo : Int) (hb : (b.length : Int) ≤ mo) :
    (Frame.continuation sid b eh).Fits mo :=
  .of_ser (ser_of_body _ b (by simp [Frame.body?]) (by simp [Frame.typeCode])
    (by simp only [Frame.flagByte]; cases eh <;> simp)) hb

theorem pushPromise_fits (sid promised : Int) (b : Bytes) (eh : Bool) (mo : Int)
    (hp : 0 ≤ promised ∧ promised < 4294967296) (hb : (b.length : Int) + 4 ≤ mo) :
    (Frame.pushPromise sid promised b eh none).Fits mo := by
  obtain ⟨a, ha, hla⟩ := u32?_some promised hp.1 hp.2
  refine .of_ser (ser_of_body _ (a ++ b) (by simp [Frame.body?, ha, zeros]) (by simp [Frame.typeCode])
    (by simp only [Frame.flagByte]; cases eh <;> simp)) ?_
  simp only [List.length_append, hla]
  omega

end H2
