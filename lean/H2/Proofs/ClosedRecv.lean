/-
  C19, the receive side: on a CLOSED connection `_receive_frame` writes nothing — every handler dies at its
  connection-state-machine input (only the GOAWAY handler and unknown frame types get through, and they return no
  frames), and the `except` clauses that would answer with RST_STREAM die at theirs.  What `receive_data` writes on a
  closed connection is therefore at most the one GOAWAY of `_terminate_connection`; and CLOSED is for ever.
-/
import H2.Proofs.RecvRule
import H2.Proofs.Closed
namespace H2
open H2.Gen H2.Conn

/-- closed, and the history of written frames is `s0` (`ClosedAnd (·.sent = s0)`, written out) -/
def CS (s0 : List Frame) (c : Conn) : Prop := c.cstate = .CLOSED ∧ c.sent = s0

/-- the history of written frames is something the building blocks before the state-machine input do not touch -/
theorem closed_sent (s0 : List Frame) : ClosedPrims (fun c => c.sent = s0) := {}

/-- **`_receive_frame` on a closed connection writes nothing**: the handlers return no frames, and the RST_STREAM the
    `except` clauses would send is refused by the connection state machine -/
theorem closed_receiveFrame (s0 : List Frame) (rf : RFrame) (c : Conn) (h : CS s0 c) :
    wp (receiveFrame rf) (fun _ => CS s0) (fun _ => CS s0) c := by
  rw [wp_receiveFrame]
  refine wp_mono ((closed_sent s0).dispatch (fun _ h => h) rf c h) ?_ ?_
  · rintro ⟨frames, events⟩ c1 ⟨rfl, hc1⟩
    exact hc1
  · intro e c1 h1
    split
    · cases e with
      | py k => exact h1
      | h2 cls code esid evs =>
        exact wp_frameErrorHandler _ _ _ _ _
          (fun _ _ _ => ((closed_sent s0).connInput .SEND_RST_STREAM (by decide)).wp_any c1 h1) h1 h1
    · exact h1

theorem cs_setFb {s0 : List Frame} {c : Conn} (h : CS s0 c) (fb : FrameBuffer) : CS s0 { c with fb := fb } := h

/-- closed; the history of written frames is `s0`, or `s0` and one GOAWAY -/
def QG (s0 : List Frame) (c : Conn) : Prop :=
  c.cstate = .CLOSED ∧ (c.sent = s0 ∨ ∃ last code, c.sent = s0 ++ [Frame.goaway last code []])

theorem closed_terminate (s0 : List Frame) (code : Int) (c : Conn) (h : CS s0 c) :
    wp (terminateConnection code) (fun _ c' => QG s0 c') (fun _ c' => QG s0 c') c := by
  unfold terminateConnection
  wps
  refine ((closed_sent s0).connInput_keeps _).cps c h (fun _ c1 h1 => ?_) fun _ _ h1 => ⟨h1.1, Or.inl h1.2⟩
  have hq : ∀ o, QG s0 { c1 with out := o, sent := c1.sent ++ [Frame.goaway c.highestIn code []] } := fun _ =>
    ⟨h1.1, Or.inr ⟨c.highestIn, code, congrArg (· ++ _) h1.2⟩⟩
  exact wp_prepare_rule _ c1 (fun _ _ _ => hq _) (fun _ => ⟨h1.1, Or.inl h1.2⟩) fun _ _ _ => hq _

theorem closed_handleRecvError (s0 : List Frame) (e : Exc) (c : Conn) (h : CS s0 c) :
    wp (handleRecvError e) (fun _ => CS s0) (fun _ => QG s0) c :=
  wp_handleRecvError e c (fun k _ _ => closed_terminate s0 k c h) (fun _ _ => ⟨h.1, Or.inl h.2⟩)

/-- **`receive_data` on a closed connection**: whatever the bytes, the connection stays closed and at most one frame is
    written, a GOAWAY -/
theorem receiveData_closed (d : Bytes) (c : Conn) (hc : c.cstate = .CLOSED) :
    (receiveData d c).2.cstate = .CLOSED ∧
    ((receiveData d c).2.sent = c.sent ∨ ∃ last code, (receiveData d c).2.sent = c.sent ++ [Frame.goaway last code []]) := by
  have h : CS c.sent c := ⟨hc, rfl⟩
  refine wp_state (R := QG c.sent) (wp_mono
    (receiveData_rule (I := CS c.sent) (F := fun _ => CS c.sent) (E := fun _ => QG c.sent)
      yields_any (fun _ _ h' => h') (fun _ _ _ h' => h') (fun _ _ _ h' => h') (fun _ _ _ h' => h')
      (fun rf c' _ h' => closed_receiveFrame _ rf c' h') (closed_handleRecvError _) d c h trivial) ?_ ?_)
  · exact fun _ _ h' => ⟨h'.1.1, Or.inl h'.1.2⟩
  · rintro _ _ (⟨_, rfl⟩ | h')
    · exact ⟨hc, Or.inl rfl⟩
    · exact h'.1

end H2
