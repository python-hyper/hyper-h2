/-
  `wp` equations and rules for the building blocks of the stream methods (`processInput`, `onWM`) and of the connection
  (`putStream`, `withStream` with `setStream`, the table after the write; `_get_stream_by_id` with `lookupExc`, the
  exception for an id that is not in the table; `_begin_new_stream`; the decoder; `_open_streams`), and on top of them
  one equation per frame handler for a frame whose stream is not in the table (or, for DATA, is closed) and for the
  `except` clauses of `_receive_frame` on a stream that was reset.
-/
import H2.Proofs.Send
import H2.Proofs.StepShape

namespace H2
open H2.Gen H2.Conn

def Stream.withShape (st : Stream) (sh : Shape) : Stream := { st with sm := { st.sm with sh := sh } }

theorem wp_processInput_eq {Q : List SEv → Stream → Prop} {E : Exc → Stream → Prop} (i : StreamInputs) (st : Stream) :
    wp (processInput i) Q E st =
      (match stepShape st.sm.sh i with
       | (.ok evs, sh) => Q evs (st.withShape sh)
       | (.proto, sh) => E (mkExc .ProtocolError) (st.withShape sh)
       | (.streamClosed w, sh) =>
         E (mkStreamClosed st.sm.sid (if w then [Event.StreamReset st.sm.sid (some (ErrorCodes.STREAM_CLOSED : Int)) false] else []))
           (st.withShape sh)) := by
  simp only [processInput, onSM, wp_zoom]
  unfold wp SM.process Stream.withShape
  cases h : stepShape st.sm.sh i with
  | mk r sh => cases r <;> rfl

/-- the two exceptions `process_input` raises on the stream `sid`: for an input the table or its side effect refuses,
    and for a frame on a stream that has been closed -/
def StepExc (sid : Int) (e : Exc) : Prop := e = mkExc .ProtocolError ∨ ∃ evs, e = mkStreamClosed sid evs

/-- the rule for `process_input`: an accepted input hands back the events of the step and writes its shape; a refused
    one raises one of the two exceptions and writes the shape the refusal leaves -/
theorem wp_processInput_rule {Q : List SEv → Stream → Prop} {E : Exc → Stream → Prop} (i : StreamInputs) (st : Stream)
    (hq : ∀ evs sh, stepShape st.sm.sh i = (.ok evs, sh) → Q evs (st.withShape sh))
    (he : ∀ e sh, StepExc st.sm.sid e → okStep st.sm.sh i = false → (stepShape st.sm.sh i).2 = sh →
            E e (st.withShape sh)) :
    wp (processInput i) Q E st := by
  rw [wp_processInput_eq]
  unfold okStep at he
  split <;> rename_i h <;> rw [h] at he
  · exact hq _ _ h
  · exact he _ _ (.inl rfl) rfl rfl
  · exact he _ _ (.inr ⟨_, rfl⟩) rfl rfl

/-- coarser: whatever `process_input` does, it leaves everything but `sm.sh` alone (never the stream id or anything
    else).  The record update is written out, so that `simp only` reduces the fields its users go on to read. -/
theorem wp_processInput_havoc {Q : List SEv → Stream → Prop} {E : Exc → Stream → Prop} (i : StreamInputs) (st : Stream)
    (hq : ∀ evs sh, Q evs { st with sm := { st.sm with sh := sh } })
    (he : ∀ e sh, E e { st with sm := { st.sm with sh := sh } }) :
    wp (processInput i) Q E st :=
  wp_processInput_rule i st (fun evs sh _ => hq evs sh) fun e sh _ _ _ => he e sh

theorem wp_onWM {Q : Option Int → Stream → Prop} {E : Exc → Stream → Prop} (f : WindowManager → WRes) (st : Stream) :
    wp (onWM f) Q E st =
      (match f st.inWM with
       | (.ok v, w) => Q v { st with inWM := w }
       | (.error e, w) => E (ofPyErr e) { st with inWM := w }) := by
  unfold wp onWM
  cases f st.inWM with
  | mk r w => cases r <;> rfl

theorem wp_onConnWM {Q : Option Int → Conn → Prop} {E : Exc → Conn → Prop} (f : WindowManager → WRes) (c : Conn) :
    wp (onConnWM f) Q E c =
      (match f c.inWM with
       | (.ok v, w) => Q v { c with inWM := w }
       | (.error e, w) => E (ofPyErr e) { c with inWM := w }) := by
  unfold wp onConnWM
  cases f c.inWM with
  | mk r w => cases r <;> rfl

def setStream (c : Conn) (sid : Int) (st : Stream) : Conn :=
  { c with streams := c.streams.map fun e => if e.1 == sid then (sid, st) else e }

theorem wp_putStream {Q : Unit → Conn → Prop} {E : Exc → Conn → Prop} (sid : Int) (st : Stream) (c : Conn) :
    wp (putStream sid st) Q E c = Q () (putStream sid st c).2 := rfl

theorem putStream_eq (c : Conn) (sid : Int) (st : Stream) :
    (putStream sid st c).2 = { c with streams := (putStream sid st c).2.streams } := by
  unfold putStream modifyS; simp only; split <;> rfl

theorem mem_setStream (c : Conn) (sid : Int) (st : Stream) (e : Int × Stream) (he : e ∈ (setStream c sid st).streams) :
    e = (sid, st) ∨ (e ∈ c.streams ∧ e.1 ≠ sid) := by
  simp only [setStream, List.mem_map] at he
  obtain ⟨e0, he0, heq⟩ := he
  split at heq
  · exact Or.inl heq.symm
  · rename_i hk
    subst heq
    exact Or.inr ⟨he0, by simpa using hk⟩

theorem mem_putStream (c : Conn) (sid : Int) (st : Stream) (e : Int × Stream)
    (he : e ∈ (putStream sid st c).2.streams) : e = (sid, st) ∨ e ∈ c.streams := by
  unfold putStream modifyS at he
  simp only at he
  split at he
  · exact (mem_setStream c sid st e he).imp_right And.left
  · exact (List.mem_append.mp he).symm.imp_left List.mem_singleton.mp

theorem setStream_keys (c : Conn) (sid : Int) (st : Stream) :
    (setStream c sid st).streams.map (·.1) = c.streams.map (·.1) := by
  unfold setStream
  rw [List.map_map]
  refine List.map_congr_left fun e _ => ?_
  show (if e.1 == sid then (sid, st) else e).1 = e.1
  split
  · rename_i h; exact (beq_iff_eq.mp h).symm
  · rfl

theorem wp_withStream {α} {Q : α → Conn → Prop} {E : Exc → Conn → Prop} (sid : Int) (m : M Stream α) (c : Conn) :
    wp (withStream sid m) Q E c =
      (match c.streams.lookup sid with
       | none => E (.py .KeyError) c
       | some st => wp m (fun a st' => Q a (setStream c sid st')) (fun e st' => E e (setStream c sid st')) st) := by
  unfold wp withStream setStream
  cases c.streams.lookup sid with
  | none => rfl
  | some st =>
    simp only
    cases m st with
    | mk r st' => cases r <;> rfl

theorem wp_withStreamHp {α} {Q : α → Conn → Prop} {E : Exc → Conn → Prop} (sid : Int) (m : SH α) (c : Conn) :
    wp (withStreamHp sid m) Q E c =
      (match c.streams.lookup sid with
       | none => E (.py .KeyError) c
       | some st => wp m (fun a s' => Q a { setStream c sid s'.1 with hp := s'.2 })
                      (fun e s' => E e { setStream c sid s'.1 with hp := s'.2 }) (st, c.hp)) := by
  unfold wp withStreamHp setStream
  cases c.streams.lookup sid with
  | none => rfl
  | some st =>
    simp only
    cases m (st, c.hp) with
    | mk r s' => cases r <;> rfl

theorem setStream_out (c : Conn) (sid : Int) (st : Stream) : (setStream c sid st).out = c.out := rfl
theorem setStream_cstate (c : Conn) (sid : Int) (st : Stream) : (setStream c sid st).cstate = c.cstate := rfl
theorem setStream_outWin (c : Conn) (sid : Int) (st : Stream) : (setStream c sid st).outWin = c.outWin := rfl
theorem setStream_inWM (c : Conn) (sid : Int) (st : Stream) : (setStream c sid st).inWM = c.inWM := rfl
theorem setStream_maxOut (c : Conn) (sid : Int) (st : Stream) : (setStream c sid st).maxOutFrame = c.maxOutFrame := rfl

/-! ### looking a stream up, and the handlers' reaction to an id that is not in the table

  An id that is not in the table is either above the high-water mark of its side (never used: NoSuchStreamError) or
  not (used and cleaned out: StreamClosedError, which is a NoSuchStreamError). -/

theorem wp_getStreamById_eq {Q : Unit → Conn → Prop} {E : Exc → Conn → Prop} (sid : Int) (c : Conn) :
    wp (getStreamById sid) Q E c =
      (if hasStream c sid then Q () c
       else if sid > (if streamIdIsOutbound c sid then c.highestOut else c.highestIn)
         then E (.h2 .NoSuchStreamError (ExcClass.NoSuchStreamError.classCode.map Int.ofNat) (some sid) []) c
         else E (mkStreamClosed sid) c) := by
  simp only [getStreamById]
  wps

/-- what `_get_stream_by_id` raises for an id that is not in the stream table -/
def lookupExc (c : Conn) (sid : Int) : Exc :=
  if sid > (if streamIdIsOutbound c sid then c.highestOut else c.highestIn)
  then .h2 .NoSuchStreamError (ExcClass.NoSuchStreamError.classCode.map Int.ofNat) (some sid) []
  else mkStreamClosed sid

theorem wp_getStreamById_lookup {Q : Unit → Conn → Prop} {E : Exc → Conn → Prop} (sid : Int) (c : Conn) :
    wp (getStreamById sid) Q E c = if hasStream c sid then Q () c else E (lookupExc c sid) c := by
  rw [wp_getStreamById_eq]
  exact ite_congr rfl (fun _ => rfl) fun _ => (apply_ite (E · c) _ _ _).symm

theorem lookupExc_new {c : Conn} {sid : Int} (h : sid > (if streamIdIsOutbound c sid then c.highestOut else c.highestIn)) :
    lookupExc c sid = mkExc .NoSuchStreamError (some sid) := if_pos h

theorem lookupExc_old {c : Conn} {sid : Int} (h : sid ≤ (if streamIdIsOutbound c sid then c.highestOut else c.highestIn)) :
    lookupExc c sid = mkStreamClosed sid := if_neg (Int.not_lt.mpr h)

theorem lookupExc_noSuch (c : Conn) (sid : Int) : (lookupExc c sid).isInstance .NoSuchStreamError = true := by
  by_cases h : sid > (if streamIdIsOutbound c sid then c.highestOut else c.highestIn)
  · rw [lookupExc_new h]; rfl
  · rw [lookupExc_old (Int.not_lt.mp h)]; rfl

theorem any_key_lookup {α} (l : List (Int × α)) (k : Int) : (l.any fun e => e.1 == k) = (l.lookup k).isSome := by
  induction l with
  | nil => rfl
  | cons e t ih =>
    obtain ⟨a, v⟩ := e
    simp only [List.any_cons, List.lookup]
    by_cases h : a = k
    · subst h; simp
    · have h1 : (a == k) = false := by simp [h]
      have h2 : (k == a) = false := by simp; omega
      simp [h1, h2, ih]

theorem hasStream_lookup (c : Conn) (sid : Int) : hasStream c sid = (c.streams.lookup sid).isSome :=
  any_key_lookup c.streams sid

theorem lookup_none_of_hasStream {c : Conn} {sid : Int} (h : hasStream c sid = false) : c.streams.lookup sid = none := by
  rw [hasStream_lookup] at h
  cases hl : c.streams.lookup sid with
  | none => rfl
  | some st => rw [hl] at h; cases h

theorem lookup_of_hasStream (c : Conn) (sid : Int) (h : hasStream c sid = true) : ∃ st, c.streams.lookup sid = some st := by
  rw [hasStream_lookup] at h
  exact Option.isSome_iff_exists.mp h

theorem wp_onStream {α} {Q : α → Conn → Prop} {E : Exc → Conn → Prop} (sid : Int) (m : M Stream α) (c : Conn) :
    wp (getStreamById sid) (fun _ => wp (withStream sid m) Q E) E c =
      match c.streams.lookup sid with
      | some st => wp m (fun a st' => Q a (setStream c sid st')) (fun e st' => E e (setStream c sid st')) st
      | none => E (lookupExc c sid) c := by
  rw [wp_getStreamById_lookup, hasStream_lookup, wp_withStream]
  cases c.streams.lookup sid <;> rfl

/-- the shape of `local_flow_control_window` and `remote_flow_control_window` -/
theorem wp_readStream {α} {Q : α → Conn → Prop} {E : Exc → Conn → Prop} (sid : Int) (f : Conn → Stream → α) (c : Conn)
    (st : Stream) (h : c.streams.lookup sid = some st) :
    wp (do
        getStreamById sid
        let c ← getS
        match lookupStream c sid with
        | some st => pure (f c st)
        | none => raise (.py .KeyError)) Q E c = Q (f c st) c := by
  unfold lookupStream
  rw [wp_bind, wp_getStreamById_lookup, if_pos (by rw [hasStream_lookup, h]; rfl), wp_bind, wp_getS, h]
  rfl

/-- `_handle_data_on_closed_stream`, which `receiveDataFrame` has inline -/
def handleDataOnClosedStream (fcl : Int) (e : Exc) : CM FE := do
  let incr ← onConnWM (·.process_bytes fcl)
  let frames := match incr with
    | some n => if n != 0 then [Frame.windowUpdate 0 n] else []
    | none => []
  match e with
  | .h2 _ code esid evs => pure (frames ++ [Frame.rstStream (esid.getD 0) (code.getD 0)], evs)
  | _ => pure (frames, [])

/-- what it hands back: the connection-level WINDOW_UPDATE that `process_bytes` asked for, if any, then the RST_STREAM
    the exception describes -/
def closedDataReply (incr : Option Int) (e : Exc) : FE :=
  let frames := match incr with
    | some n => if n != 0 then [Frame.windowUpdate 0 n] else []
    | none => []
  match e with
  | .h2 _ code esid evs => (frames ++ [Frame.rstStream (esid.getD 0) (code.getD 0)], evs)
  | _ => (frames, [])

theorem wp_handleDataOnClosedStream {Q : FE → Conn → Prop} {E : Exc → Conn → Prop} (fcl : Int) (e : Exc) (c : Conn) :
    wp (handleDataOnClosedStream fcl e) Q E c =
      match c.inWM.process_bytes fcl with
      | (.ok incr, w) => Q (closedDataReply incr e) { c with inWM := w }
      | (.error x, w) => E (ofPyErr x) { c with inWM := w } := by
  unfold handleDataOnClosedStream
  rw [wp_bind, wp_onConnWM]
  cases c.inWM.process_bytes fcl with
  | mk r w => cases r <;> cases e <;> rfl

/-- the `except StreamClosedError` clause of `_receive_data_frame` -/
def dataOnClosed (fcl : Int) (Q : FE → Conn → Prop) (E : Exc → Conn → Prop) (e : Exc) (c : Conn) : Prop :=
  if e.isInstance .StreamClosedError then wp (handleDataOnClosedStream fcl e) Q E c else E e c

/-- **`_receive_data_frame`** once the connection state machine has accepted the frame: the connection window is
    charged; then the stream's `receive_data` runs, and a StreamClosedError — from it, or from the lookup of a stream
    that has been and gone — is answered by `dataOnClosed` -/
theorem wp_receiveDataFrame_eq {Q : FE → Conn → Prop} {E : Exc → Conn → Prop} (c : Conn) (sid : Int) (p : Bytes) (es : Bool)
    (fcl : Int) (t : ConnectionState) (ht : connTable c.cstate .RECV_DATA = some t) :
    wp (receiveDataFrame sid p es fcl) Q E c =
      match c.inWM.window_consumed fcl with
      | (.error x, w) => E (ofPyErr x) { c with cstate := t, inWM := w }
      | (.ok _, w) =>
        match c.streams.lookup sid with
        | some st =>
          wp (Stream.receiveData p es fcl) (fun a st' => Q a (setStream { c with cstate := t, inWM := w } sid st'))
            (fun e st' => dataOnClosed fcl Q E e (setStream { c with cstate := t, inWM := w } sid st')) st
        | none => dataOnClosed fcl Q E (lookupExc c sid) { c with cstate := t, inWM := w } := by
  unfold receiveDataFrame
  rw [wp_bind, wp_connInput_ok _ _ _ ht, wp_bind, wp_onConnWM]
  cases c.inWM.window_consumed fcl with
  | mk r w =>
    cases r with
    | error x => rfl
    | ok v =>
      simp only [wp_tryCatch]
      rw [wp_bind, wp_onStream]
      dsimp only
      -- the `except` clause is `dataOnClosed`, on the stream's exception or on the lookup's
      cases c.streams.lookup sid <;> rfl

/-- **`_receive_window_update_frame`** for a stream that is not in the table: a connection error if the id was never
    used, ignored if the stream has been and gone -/
theorem wp_receiveWindowUpdateFrame_absent {Q : FE → Conn → Prop} {E : Exc → Conn → Prop} (c : Conn) (sid incr : Int)
    (t : ConnectionState) (ht : connTable c.cstate .RECV_WINDOW_UPDATE = some t) (hs : sid ≠ 0)
    (hno : hasStream c sid = false) :
    wp (receiveWindowUpdateFrame sid incr) Q E c =
      if (lookupExc c sid).isInstance .StreamClosedError then Q ([], []) { c with cstate := t }
      else E (lookupExc c sid) { c with cstate := t } := by
  unfold receiveWindowUpdateFrame
  rw [wp_bind, wp_connInput_ok _ _ _ ht, if_pos (bne_iff_ne.mpr hs), wp_tryCatch, wp_bind, wp_onStream]
  dsimp only
  rw [lookup_none_of_hasStream hno]
  rfl

/-- **`_receive_window_update_frame`** for the connection (stream 0): the increment goes through
    `guard_increment_window` -/
theorem wp_receiveWindowUpdateFrame_conn {Q : FE → Conn → Prop} {E : Exc → Conn → Prop} (c : Conn) (incr : Int)
    (t : ConnectionState) (ht : connTable c.cstate .RECV_WINDOW_UPDATE = some t) :
    wp (receiveWindowUpdateFrame 0 incr) Q E c =
      match guard_increment_window c.outWin incr with
      | .ok w => Q ([], [Event.WindowUpdated 0 (some incr)]) { c with cstate := t, outWin := w }
      | .error e => E (ofPyErr e) { c with cstate := t } := by
  unfold receiveWindowUpdateFrame
  rw [wp_bind, wp_connInput_ok _ _ _ ht, if_neg (by decide), wp_bind, wp_getS]
  dsimp only
  cases guard_increment_window c.outWin incr <;> rfl

/-- **`_receive_rst_stream_frame`** for a stream that is not in the table, used or not: ignored (the handler swallows
    NoSuchStreamError and with it StreamClosedError) -/
theorem wp_receiveRstStreamFrame_absent {Q : FE → Conn → Prop} {E : Exc → Conn → Prop} (c : Conn) (sid code : Int)
    (t : ConnectionState) (ht : connTable c.cstate .RECV_RST_STREAM = some t) (hno : hasStream c sid = false) :
    wp (receiveRstStreamFrame sid code) Q E c = Q ([], []) { c with cstate := t } := by
  unfold receiveRstStreamFrame
  rw [wp_bind, wp_connInput_ok _ _ _ ht, wp_bind, wp_tryCatch, wp_bind, wp_getStreamById_lookup,
    show hasStream { c with cstate := t } sid = false from hno, if_neg Bool.false_ne_true,
    if_pos (lookupExc_noSuch _ sid)]
  rfl

/-- **the `except` clauses of `_receive_frame`** for a stream that was closed by a reset: one RST_STREAM is written —
    with the exception's own code and events if it is a StreamClosedError (`sub`), with STREAM_CLOSED and no events
    otherwise (StreamIDTooLowError) — and nothing is raised unless the connection state machine refuses to send.  The
    code has to fit the frame's 32-bit field. -/
theorem wp_frameErrorHandler_reset (c : Conn) (cls : ExcClass) (code esid : Option Int) (evs : List Event) (sub : Bool)
    (hsub : cls.isSub .StreamClosedError = sub) (hr : closedByReset c (esid.getD 0) = true)
    (hcode : 0 ≤ (bif sub then code.getD 0 else ErrorCodes.STREAM_CLOSED) ∧
      (bif sub then code.getD 0 else ErrorCodes.STREAM_CLOSED) < 4294967296)
    (hmax : 4 ≤ c.maxOutFrame) :
    ∃ b, (Frame.rstStream (esid.getD 0) (bif sub then code.getD 0 else ErrorCodes.STREAM_CLOSED)).serialize? = some b ∧
      ∀ {Q : List Event → Conn → Prop} {E : Exc → Conn → Prop},
        wp (frameErrorHandler (.h2 cls code esid evs)) Q E c =
          match connTable c.cstate .SEND_RST_STREAM with
          | some t => Q (bif sub then evs else [])
              { c with cstate := t, out := c.out ++ b,
                       sent := c.sent ++ [Frame.rstStream (esid.getD 0) (bif sub then code.getD 0 else ErrorCodes.STREAM_CLOSED)] }
          | none => E pErr { c with cstate := .CLOSED } := by
  obtain ⟨b, hb, hlen⟩ := rst_serialize (esid.getD 0) _ hcode
  refine ⟨b, hb, fun {Q E} => ?_⟩
  unfold frameErrorHandler
  subst hsub
  cases hsub : cls.isSub .StreamClosedError <;> rw [hsub] at hb hlen <;>
    simp only [hsub, cond_true, cond_false, Bool.false_eq_true, if_false, if_true] at hb hlen ⊢ <;>
    rw [wp_bind, wp_getS, if_pos hr, wp_bind]
  all_goals
    cases ht : connTable c.cstate .SEND_RST_STREAM with
    | none => exact wp_connInput_err _ _ ht
    | some t =>
      rw [wp_connInput_ok _ _ _ ht, wp_bind, wp_prepare_single _ { c with cstate := t } b hb (by rw [hlen]; exact hmax)]
      rfl

/-! ### the table after a write -/

theorem lookup_mem {α} (l : List (Int × α)) (k : Int) (v : α) (h : l.lookup k = some v) : (k, v) ∈ l := by
  induction l with
  | nil => simp at h
  | cons e t ih =>
    obtain ⟨a, b⟩ := e
    simp only [List.lookup] at h
    by_cases hk : k = a
    · subst hk; simp at h; subst h; exact List.mem_cons_self ..
    · have : (k == a) = false := by simp [hk]
      simp only [this] at h
      exact List.mem_cons_of_mem _ (ih h)

theorem lookup_cons_if {α} (a k : Int) (b : α) (t : List (Int × α)) :
    ((a, b) :: t).lookup k = if k = a then some b else t.lookup k := by
  rw [List.lookup_cons]
  by_cases h : k = a
  · rw [if_pos h, beq_iff_eq.mpr h]
  · rw [if_neg h, beq_eq_false_iff_ne.mpr h]

theorem lookup_map_fst {α} (s : List (Int × α)) (g : Int × α → Int × α) (hg : ∀ e, (g e).1 = e.1) (j : Int) :
    (s.map g).lookup j = (s.lookup j).map fun v => (g (j, v)).2 := by
  induction s with
  | nil => rfl
  | cons e t ih =>
    obtain ⟨a, v⟩ := e
    have hga : g (a, v) = (a, (g (a, v)).2) := Prod.ext (hg _) rfl
    rw [List.map_cons, hga, lookup_cons_if, lookup_cons_if, ih]
    split
    · rename_i h; subst h; rfl
    · rfl

theorem lookup_replace {α} (l : List (Int × α)) (sid k : Int) (v : α) :
    (l.map fun e => if e.1 == sid then (sid, v) else e).lookup k =
      if k = sid then (l.lookup k).map fun _ => v else l.lookup k := by
  rw [lookup_map_fst l _ fun e => by split <;> simp_all]
  by_cases hk : k = sid <;> simp [hk]

theorem lookup_setStream (c : Conn) (sid : Int) (st : Stream) (k : Int) :
    (setStream c sid st).streams.lookup k =
      if k = sid then (c.streams.lookup k).map fun _ => st else c.streams.lookup k := lookup_replace _ _ _ _

theorem hasStream_setStream (c : Conn) (k : Int) (st : Stream) (sid : Int) :
    hasStream (setStream c k st) sid = hasStream c sid := by
  rw [hasStream_lookup, hasStream_lookup, lookup_setStream]
  split
  · exact Option.isSome_map
  · rfl

theorem lookup_putStream (c : Conn) (sid : Int) (st : Stream) (k : Int) :
    (putStream sid st c).2.streams.lookup k = if k = sid then some st else c.streams.lookup k := by
  have hs : (c.streams.any fun e => e.1 == sid) = (c.streams.lookup sid).isSome := hasStream_lookup c sid
  unfold putStream modifyS
  simp only
  split
  · rename_i h
    rw [lookup_replace]
    split
    · rename_i hk
      rw [h] at hs
      obtain ⟨x, hx⟩ := Option.isSome_iff_exists.mp hs.symm
      rw [hk, hx]; rfl
    · rfl
  · rename_i h
    rw [List.lookup_append, lookup_cons_if]
    split
    · rename_i hk
      rw [Bool.eq_false_iff.mpr h] at hs
      rw [hk, Option.not_isSome_iff_eq_none.mp (Bool.eq_false_iff.mp hs.symm)]
      rfl
    · cases c.streams.lookup k <;> rfl

/-! ### `_begin_new_stream` -/

/-- the H2Stream object `_begin_new_stream` builds -/
def freshStream (sid mo ow iw : Int) : Stream :=
  { sm := { sid := sid }, maxOutFrame := mo, outWin := ow,
    inWM := { max_window_size := iw, current_window_size := iw, bytes_processed := 0 } }

/-- the state `_begin_new_stream` leaves when it accepts the id: a fresh stream object filed under `sid`, with the
    connection's copy of the peer's MAX_FRAME_SIZE, and the mark of the id's direction moved up to the id -/
def filed (sid ow : Int) (wm : WindowManager) (c : Conn) : Conn :=
  let c1 := (putStream sid { sm := { sid := sid }, maxOutFrame := c.maxOutFrame, outWin := ow, inWM := wm } c).2
  if streamIdIsOutbound c sid then { c1 with highestOut := sid } else { c1 with highestIn := sid }

/-- the two INITIAL_WINDOW_SIZE settings cannot be read, or the local one is no window: never on a connection whose
    settings are in order (`SettingsOk`) -/
def CreateFails (c : Conn) : Prop :=
  c.localSettings.initialWindowSize = none ∨ c.remoteSettings.initialWindowSize = none ∨
  ∃ iw e, c.localSettings.initialWindowSize = some iw ∧ WindowManager.init iw = .error e

/-- **`_begin_new_stream`**, any state: the id is refused (at or below the mark of its direction: StreamIDTooLowError;
    wrong parity or above 2^31-1: ProtocolError) with nothing changed, or it passed the three checks and the stream
    is filed -/
theorem wp_beginNewStream_rule {Q : Unit → Conn → Prop} {E : Exc → Conn → Prop} (sid : Int) (odd : Bool) (c : Conn)
    (hq : ∀ ow iw wm, c.remoteSettings.initialWindowSize = some ow → c.localSettings.initialWindowSize = some iw →
      WindowManager.init iw = .ok wm → (if streamIdIsOutbound c sid then c.highestOut else c.highestIn) < sid →
      sid % 2 = (if odd then 1 else 0) → sid ≤ HIGHEST_ALLOWED_STREAM_ID → Q () (filed sid ow wm c))
    (he : ∀ e, e = mkExc .StreamIDTooLowError (some sid) ∨ e = pErr ∨ CreateFails c → E e c) :
    wp (beginNewStream sid odd) Q E c := by
  unfold beginNewStream
  wps
  refine ite_intro (fun _ => he _ (.inl rfl)) fun hlow => ite_intro (fun _ => he _ (.inr (.inl rfl))) fun hpar =>
    ite_intro (fun _ => he _ (.inr (.inl rfl))) fun hbig => ?_
  unfold createStream optInt?
  wps
  cases hiw : c.localSettings.initialWindowSize with
  | none => exact he _ (.inr (.inr (.inl hiw)))
  | some iw =>
    simp only; wps
    cases how : c.remoteSettings.initialWindowSize with
    | none => exact he _ (.inr (.inr (.inr (.inl how))))
    | some ow =>
      simp only; wps
      cases hwm : WindowManager.init iw with
      | error e => exact he _ (.inr (.inr (.inr (.inr ⟨iw, e, hiw, hwm⟩))))
      | ok wm =>
        simp only; wps
        have := hq ow iw wm how hiw hwm (Int.not_le.mp hlow) (by simpa using hpar) (Int.not_lt.mp hbig)
        unfold filed at this
        split at this <;> rename_i ho <;> simp only [ho, if_true, Bool.false_eq_true, if_false] <;> exact this

/-! ### the HPACK decoder, `_open_streams`, and what an acknowledged SETTINGS frame assigns -/

/-- `_decode_headers` as an equation: the decoder logs the block and answers with the head of its oracle (a missing
    answer counts as HPACKError); the three kinds of failure become exceptions -/
theorem wp_decodeHeaders_eq {Q : List Header → Conn → Prop} {E : Exc → Conn → Prop} (block : Bytes) (c : Conn) :
    wp (decodeHeaders block) Q E c =
      match c.hp.decOracle with
      | [] => E pErr { c with hp := { c.hp with decLog := c.hp.decLog ++ [block], oracleMiss := true } }
      | r :: rest =>
        (match r with
         | .ok hs => Q hs
         | .oversized => E (mkExc .DenialOfServiceError)
         | .hpackError => E pErr
         | .py n => E (.py (.Other n)))
          { c with hp := { c.hp with decLog := c.hp.decLog ++ [block], decOracle := rest } } := by
  unfold decodeHeaders wp
  simp only [bind, M.bind, zoom, Hp.decode]
  cases c.hp.decOracle with
  | nil => rfl
  | cons r rest => cases r <;> rfl

/-- `_open_streams` as an equation: it counts the open streams of the parity and moves the closed streams out of the
    table, into the memory of closed streams -/
theorem wp_openStreams_eq {Q : Int → Conn → Prop} {E : Exc → Conn → Prop} (r : Int) (c : Conn) :
    wp (openStreams r) Q E c =
      Q ((c.streams.filter fun e => e.2.isOpen && e.1 % 2 == r).length : Int)
        { c with streams := c.streams.filter fun e => (e.2.isOpen && e.1 % 2 == r) || !e.2.isClosed,
                 closedStreams := (openStreams r c).2.closedStreams } := rfl

/-- what `_acknowledge_settings` assigns for HEADER_TABLE_SIZE and MAX_FRAME_SIZE, field by field (the encoder is told
    only of a table size that differs from the one in force) -/
theorem remoteOtherChanges_eq (ch : List (Int × Option Int × Int)) (c : Conn) :
    remoteOtherChanges ch c =
      { c with
        encTableSize := match findChange ch SettingCodes.HEADER_TABLE_SIZE with | some (_, new) => new | none => c.encTableSize
        hp := { c.hp with encLog := match findChange ch SettingCodes.HEADER_TABLE_SIZE with
          | some (_, new) => if new != c.encTableSize then c.hp.encLog ++ [EncEv.resize new] else c.hp.encLog
          | none => c.hp.encLog }
        maxOutFrame := match findChange ch SettingCodes.MAX_FRAME_SIZE with | some (_, new) => new | none => c.maxOutFrame
        streams := match findChange ch SettingCodes.MAX_FRAME_SIZE with
          | some (_, new) => c.streams.map fun e => (e.1, { e.2 with maxOutFrame := new })
          | none => c.streams } := by
  unfold remoteOtherChanges
  cases findChange ch SettingCodes.HEADER_TABLE_SIZE with
  | none => cases findChange ch SettingCodes.MAX_FRAME_SIZE <;> rfl
  | some p =>
    simp only
    by_cases h : (p.2 != c.encTableSize) = true
    · simp only [h, if_true]
      cases findChange ch SettingCodes.MAX_FRAME_SIZE <;> rfl
    · -- nothing is assigned, and `new` is the value in force
      have hp : p.2 = c.encTableSize := by simpa using h
      simp only [hp, bne_self_eq_false, Bool.false_eq_true, if_false]
      cases findChange ch SettingCodes.MAX_FRAME_SIZE <;> rfl

/-- what `_local_settings_acked` assigns for MAX_HEADER_LIST_SIZE, MAX_FRAME_SIZE and HEADER_TABLE_SIZE -/
theorem localOtherChanges_eq (ch : List (Int × Option Int × Int)) (c : Conn) :
    localOtherChanges ch c =
      { c with
        decMaxHeaderList :=
          match findChange ch SettingCodes.MAX_HEADER_LIST_SIZE with | some (_, new) => new | none => c.decMaxHeaderList
        maxInFrame := match findChange ch SettingCodes.MAX_FRAME_SIZE with | some (_, new) => new | none => c.maxInFrame
        decMaxTableSize :=
          match findChange ch SettingCodes.HEADER_TABLE_SIZE with | some (_, new) => new | none => c.decMaxTableSize } := by
  unfold localOtherChanges
  cases findChange ch SettingCodes.MAX_HEADER_LIST_SIZE <;> cases findChange ch SettingCodes.MAX_FRAME_SIZE <;>
    cases findChange ch SettingCodes.HEADER_TABLE_SIZE <;> rfl

end H2
