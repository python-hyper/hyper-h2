/-
  A closed connection takes no new streams: on a CLOSED connection every frame handler dies at its connection-state-
  machine input, and what runs before that input (the HPACK decoder, the clean-up of `_open_streams` that counting the
  open streams triggers) adds nothing to the stream table.  The predicate is "closed, and every id in the table
  satisfies `s0`" (`s0`: the ids that were there to begin with).
-/
import H2.Proofs.Closed
import H2.Proofs.Stable
namespace H2
open H2.Gen H2.Conn

/-- closed, and every stream id in the table satisfies `s0` (`ClosedAnd` of the second half, written out) -/
def CT (s0 : Int → Prop) (c : Conn) : Prop := c.cstate = .CLOSED ∧ ∀ e ∈ c.streams, s0 e.1

/-- counting the open streams only removes streams, a stream method changes a stream object and not the key it is filed
    under, and the HPACK decoder does not touch the table -/
theorem closed_ids (s0 : Int → Prop) : ClosedPrims (fun c => ∀ e ∈ c.streams, s0 e.1) where
  openStreams r := .of_state fun c h e hmem => h e (List.mem_filter.mp hmem).1
  withStream sid m := Keeps.withStream_setStream sid m fun c _ h _ =>
    List.forall_mem_map.mp (setStream_keys c sid _ ▸ List.forall_mem_map.mpr h)

theorem ct_setFb {s0 : (Int → Prop)} {c : Conn} (h : CT s0 c) (fb : FrameBuffer) : CT s0 { c with fb := fb } := h

/-- the connection state machine never leaves CLOSED, writing frames does not touch the table, and the handlers die
    before they touch it (`ClosedPrims.dispatch`) -/
theorem stable_CT (s0 : Int → Prop) : Stable (CT s0) where
  fb := fun _ _ h => h
  connInput := fun i => ((closed_ids s0).connInput_keeps i).run
  prepare := fun fs => (Keeps.prepare_of (P := CT s0) (fun _ _ _ h => h) fs).run
  dispatch := fun rf c h =>
    wp_mono ((closed_ids s0).dispatch (fun _ h => h) rf c h) (fun _ _ h' => h'.2) (fun _ _ h' => h')

/-- **`receive_data` on a closed connection takes no new stream**: whatever the bytes, the connection stays closed and
    every stream id in the table afterwards was in the table before (streams may leave: counting the open streams
    cleans closed ones out) -/
theorem receiveData_closed_table (d : Bytes) (c : Conn) (hc : c.cstate = .CLOSED) :
    (receiveData d c).2.cstate = .CLOSED ∧
    ∀ e ∈ (receiveData d c).2.streams, ∃ e0 ∈ c.streams, e0.1 = e.1 :=
  stable_receiveData (stable_CT fun sid => ∃ e0 ∈ c.streams, e0.1 = sid) d c ⟨hc, fun e he => ⟨e, he, rfl⟩⟩

end H2
