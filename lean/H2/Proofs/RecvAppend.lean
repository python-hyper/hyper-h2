/-
  C21, the parts of the assembly (Props/C21.lean): the preface check distributes over concatenation and keeps
  `PreInv`; `receive_data` is `add_data`, the loop (Proofs/RecvLoop.lean), and the `except` clauses, which always
  re-raise and run with the frame buffer out of sight (`receiveData_eq`); so what it does to the frame buffer does not
  depend on the handlers (`receiveData_fb`).
-/
import H2.Proofs.RecvLoop
namespace H2
namespace FrameBuffer

/-- the invariant of the preface check: bytes are buffered only once the preface is complete -/
def PreInv (fb : FrameBuffer) : Prop := fb.preamble ≠ [] → fb.data = []

/-- `add_data`; a complete preface needs no case of its own: nothing is compared, nothing dropped -/
theorem addData_eq (fb : FrameBuffer) (d : Bytes) :
    addData fb d =
      if fb.preamble.take (min fb.preamble.length d.length) = d.take (min fb.preamble.length d.length) then
        .ok { fb with data := fb.data ++ d.drop (min fb.preamble.length d.length),
                      preamble := fb.preamble.drop (min fb.preamble.length d.length) }
      else .error (mkExc .ProtocolError) := by
  unfold addData
  by_cases hp : fb.preamble = []
  · simp [hp]
  · simp only [List.isEmpty_iff, hp, if_false, bne_iff_ne, ne_eq, ite_not]

theorem addData_error (fb : FrameBuffer) (d : Bytes) (e : Exc) (h : addData fb d = .error e) :
    e = mkExc .ProtocolError := by
  rw [addData_eq] at h
  split at h
  · cases h
  · injection h with h; exact h.symm

theorem addData_headersBuffer {fb fb' : FrameBuffer} {d : Bytes} (h : addData fb d = .ok fb') :
    fb'.headersBuffer = fb.headersBuffer := by
  rw [addData_eq] at h
  split at h
  · injection h with h; subst h; rfl
  · cases h

theorem addData_setMax (fb : FrameBuffer) (d : Bytes) (m : Int) :
    addData { fb with maxFrameSize := m } d = (match addData fb d with
      | .error e => .error e
      | .ok f => .ok { f with maxFrameSize := m }) := by
  simp only [addData_eq]
  split <;> rfl

theorem addData_preInv {fb fb1 : FrameBuffer} {d : Bytes} (h : addData fb d = .ok fb1) (hi : PreInv fb) :
    PreInv fb1 := by
  intro hp
  rw [addData_eq] at h
  split at h
  · injection h with h; subst h
    simp only at hp ⊢
    -- part of the preface is still missing: `d` was used up on it, and the preface was not complete before
    have hlt : min fb.preamble.length d.length < fb.preamble.length :=
      Nat.lt_of_not_le fun hle => hp (List.drop_of_length_le hle)
    have : min fb.preamble.length d.length = d.length := by omega
    rw [hi (by intro h0; simp [h0] at hlt), this, List.drop_length]; rfl
  · cases h

theorem addData_ready (fb : FrameBuffer) (d : Bytes) (h : fb.preamble = []) : addData fb d = .ok (fb.more d) := by
  rw [addData_eq]
  simp [h, more]

theorem addData_nil (fb : FrameBuffer) : addData fb [] = .ok fb := by
  rw [addData_eq]
  simp

theorem addData_cons (fb : FrameBuffer) (p x : UInt8) (ps d : Bytes) (h : fb.preamble = p :: ps) :
    addData fb (x :: d) =
      if p = x then addData { fb with preamble := ps } d else .error (mkExc .ProtocolError) := by
  simp only [addData_eq, h, List.length_cons, Nat.add_min_add_right, List.take_succ_cons, List.drop_succ_cons,
    List.cons.injEq]
  by_cases hpx : p = x
  · simp [hpx]
  · simp [hpx]

theorem addData_append (fb : FrameBuffer) (a b : Bytes) :
    addData fb (a ++ b) = (match addData fb a with
      | .error e => .error e
      | .ok fb1 => addData fb1 b) := by
  induction a generalizing fb with
  | nil =>
    rw [addData_nil]
    rfl
  | cons x a ih =>
    cases hp : fb.preamble with
    | nil =>
      -- the preface is complete: both sides only buffer
      rw [addData_ready _ _ hp, addData_ready _ _ hp]
      show _ = addData (fb.more (x :: a)) b
      rw [addData_ready _ b (show (fb.more (x :: a)).preamble = [] from hp), more_more]
    | cons p ps =>
      rw [List.cons_append, addData_cons _ _ _ _ _ hp, addData_cons _ _ _ _ _ hp]
      split
      · exact ih _
      · rfl

end FrameBuffer

namespace Conn
open FrameBuffer

theorem handleRecvError_raises (e : Exc) (c : Conn) : ∃ e' c', handleRecvError e c = (.error e', c') := by
  -- every branch ends in `raise`, after at most one `_terminate_connection`, which may itself raise
  have : wp (handleRecvError e) (fun _ _ => False) (fun _ _ => True) c := by
    unfold handleRecvError
    split
    · wps; exact wp_havoc (fun _ _ => trivial) (fun _ _ => trivial)
    · split
      · split
        · wps; exact wp_havoc (fun _ _ => trivial) (fun _ _ => trivial)
        · trivial
      · trivial
    · trivial
  cases h : handleRecvError e c with
  | mk r c' =>
    cases r with
    | ok u => exact ((wp_result this).1 u c' h).elim
    | error e' => exact ⟨e', c', rfl⟩

def sameButFb (c1 c2 : Conn) : Prop := { c1 with fb := {} } = { c2 with fb := {} }

theorem sameButFb_refl (c : Conn) : sameButFb c c := rfl
theorem sameButFb_moreFb (c : Conn) (x : Bytes) : sameButFb (c.moreFb x) c := rfl
theorem sameButFb_trans {a b c : Conn} (h1 : sameButFb a b) (h2 : sameButFb b c) : sameButFb a c := h1.trans h2
theorem sameButFb_out {a b : Conn} (h : sameButFb a b) : a.out = b.out := by
  unfold sameButFb at h
  -- `have`, not `exact`: against the goal, `congrArg` would look for `a = b`
  have h2 := congrArg Conn.out h
  exact h2

/-- the state `receive_data` enters its loop in: the buffer `add_data` returned, with the limit refreshed -/
def startRecv (c : Conn) (fb : FrameBuffer) : Conn := { c with fb := { fb with maxFrameSize := c.maxInFrame } }

/-- the `try` around the loop of `receive_data`: a result passes, an exception goes to the `except` clauses -/
def finishRecv : Except Exc (List Event) × Conn → Except Exc (List Event) × Conn
  | (.ok evs, c) => (.ok evs, c)
  | (.error e, c) => hideFb (handleRecvError e) c

theorem receiveData_eq (d : Bytes) (c : Conn) :
    receiveData d c = (match addData c.fb d with
      | .error e => (.error e, c)
      | .ok fb => finishRecv (loop [] (startRecv c fb))) := by
  unfold receiveData
  cases addData c.fb d with
  | error e => rfl
  | ok fb =>
    simp only [startRecv, finishRecv, loop]
    cases recvLoop (fb.data.length + 1) [] { c with fb := { fb with maxFrameSize := c.maxInFrame } } with
    | mk r c' => cases r <;> rfl

theorem finishRecv_error (e : Exc) (c : Conn) : ∃ e' c', finishRecv (.error e, c) = (.error e', c') := by
  obtain ⟨e', c', h⟩ := handleRecvError_raises e { c with fb := {} }
  exact ⟨e', { c' with fb := c.fb }, by simp only [finishRecv, hideFb_eq, h]⟩

theorem finishRecv_more (r : Except Exc (List Event)) (c : Conn) (x : Bytes) :
    finishRecv (r, c.moreFb x) = ((finishRecv (r, c)).1, (finishRecv (r, c)).2.moreFb x) := by
  cases r with
  | ok evs => rfl
  | error e => simp only [finishRecv, hideFb_eq, moreFb]

theorem finishRecv_fb (p : Except Exc (List Event) × Conn) : (finishRecv p).2.fb = p.2.fb := by
  obtain ⟨r, c⟩ := p
  cases r <;> rfl

/-- `receive_data` writes the frame buffer in three ways, whatever the handlers do: `add_data`, a step of the iterator,
    the limit refreshed (`recvLoop_inv`); what survives the three, `receive_data` keeps -/
theorem receiveData_fb (P : FrameBuffer → Prop) (hadd : ∀ fb d fb', addData fb d = .ok fb' → P fb → P fb')
    (hstep : ∀ fb f k, P fb →
      P { fb with data := fb.data.drop k, headersBuffer := (stepHeaderBuffer fb.headersBuffer f).2 })
    (hmax : ∀ fb m, P fb → P { fb with maxFrameSize := m }) (d : Bytes) (c : Conn) (h : P c.fb) :
    P (receiveData d c).2.fb := by
  rw [receiveData_eq]
  cases ha : addData c.fb d with
  | error e => exact h
  | ok fb =>
    simp only
    rw [finishRecv_fb]
    exact recvLoop_inv P hstep hmax _ _ _ (hmax _ _ (hadd _ _ _ ha h))

theorem receiveData_ready (x : Bytes) (c : Conn) (hp : c.fb.preamble = []) (hm : c.fb.maxFrameSize = c.maxInFrame) :
    receiveData x c = finishRecv (loop [] (c.moreFb x)) := by
  rw [receiveData_eq, addData_ready _ _ hp]
  unfold startRecv moreFb more
  rw [← hm]

end Conn
end H2
