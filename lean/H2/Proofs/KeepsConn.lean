/-
  The walk of Proofs/Keeps for H2Connection: every frame handler and every public call keeps a predicate that survives
  the building blocks they are made of.  A walk carries the name of the method it walks (`CallPrims.ping` is about
  `Conn.ping`), so inside these namespaces the model's functions are written with their namespace.
-/
import H2.Proofs.Keeps
namespace H2
open H2.Gen H2.Conn

/-! ### the building blocks of the connection

  `Keeps.X_of`: a predicate survives block `X` if it survives the assignments `X` makes. -/

section
variable {P : Conn → Prop}

theorem Keeps.getStreamById (sid : Int) : Keeps P (getStreamById sid) := by
  unfold Conn.getStreamById; keeps_walk []

theorem Keeps.localWindow (sid : Int) : Keeps P (localFlowControlWindow sid) := by
  unfold localFlowControlWindow; keeps_walk [Keeps.getStreamById _]

theorem Keeps.remoteWindow (sid : Int) : Keeps P (remoteFlowControlWindow sid) := by
  unfold remoteFlowControlWindow; keeps_walk [Keeps.getStreamById _]

theorem Keeps.nextStreamId : Keeps P getNextAvailableStreamId := by
  unfold getNextAvailableStreamId; keeps_walk []

theorem Keeps.connInput_of (h : ∀ c x, P c → P { c with cstate := x }) (i : ConnectionInputs) : Keeps P (connInput i) :=
  .of_state fun c hc => by unfold connInput; split <;> exact h c _ hc

theorem Keeps.connInput_closed (i : ConnectionInputs) : Keeps (fun c : Conn => c.cstate = .CLOSED) (connInput i) :=
  .of_state fun c h => by
    unfold connInput
    split
    · rename_i t ht; rw [h] at ht; exact conn_closed_absorbing _ _ ht
    · rfl

theorem Keeps.withStream_of (h : ∀ c x, P c → P { c with streams := x }) {α : Type} (sid : Int) (m : M Stream α) :
    Keeps P (withStream sid m) :=
  .of_state fun c hc => by unfold withStream; split <;> first | exact hc | exact h c _ hc

theorem Keeps.withStream_setStream {α : Type} (sid : Int) (m : M Stream α)
    (h : ∀ c st, P c → c.streams.lookup sid = some st → P (setStream c sid (m st).2)) : Keeps P (withStream sid m) :=
  .of_state fun c hc => by
    unfold withStream
    split
    · exact hc
    · rename_i st hl; exact h c st hc hl

theorem Keeps.withStreamHp_of (h : ∀ c x y, P c → P { c with streams := x, hp := y }) {α : Type} (sid : Int) (m : SH α) :
    Keeps P (withStreamHp sid m) :=
  .of_state fun c hc => by unfold withStreamHp; split <;> first | exact hc | exact h c _ _ hc

theorem Keeps.openStreams_of (h : ∀ c x y, P c → P { c with streams := x, closedStreams := y }) (r : Int) :
    Keeps P (openStreams r) :=
  .of_state fun c hc => h c _ _ hc

theorem Keeps.openOut_of (h : ∀ r, Keeps P (openStreams r)) : Keeps P openOutboundStreams := by
  unfold openOutboundStreams; keeps_walk [h _]

theorem Keeps.openIn_of (h : ∀ r, Keeps P (openStreams r)) : Keeps P openInboundStreams := by
  unfold openInboundStreams; keeps_walk [h _]

theorem Keeps.onConnWM_of (h : ∀ c x, P c → P { c with inWM := x }) (f : WindowManager → WRes) : Keeps P (onConnWM f) :=
  .of_state fun c hc => by unfold onConnWM; split <;> exact h c _ hc

theorem Keeps.decodeHeaders_of (h : ∀ c x, P c → P { c with hp := x }) (b : Bytes) : Keeps P (decodeHeaders b) := by
  unfold decodeHeaders
  refine .bind (.of_state fun c hc => h c _ hc) fun r => ?_
  split <;> first | exact .pure _ | exact .raise _

theorem Keeps.putStream_of (h : ∀ c x, P c → P { c with streams := x }) (sid : Int) (st : Stream) :
    Keeps P (putStream sid st) :=
  .modifyS fun c hc => by split <;> exact h c _ hc

/-- `_begin_new_stream` refuses and leaves the state alone, or files a fresh stream object (with the connection's copy
    of the peer's MAX_FRAME_SIZE) and moves the mark of the id's direction up to the id, which is within range -/
theorem Keeps.beginNewStream_of
    (hout : ∀ c sid ow wm, P c → streamIdIsOutbound c sid = true → c.highestOut < sid → sid ≤ HIGHEST_ALLOWED_STREAM_ID →
      P { (putStream sid { sm := { sid := sid }, maxOutFrame := c.maxOutFrame, outWin := ow, inWM := wm } c).2 with
          highestOut := sid })
    (hin : ∀ c sid ow wm, P c → streamIdIsOutbound c sid = false → c.highestIn < sid → sid ≤ HIGHEST_ALLOWED_STREAM_ID →
      P { (putStream sid { sm := { sid := sid }, maxOutFrame := c.maxOutFrame, outWin := ow, inWM := wm } c).2 with
          highestIn := sid })
    (sid : Int) (odd : Bool) : Keeps P (beginNewStream sid odd) := ⟨fun c hc =>
  wp_beginNewStream_rule sid odd c (fun ow _ wm _ _ _ hlt _ hle => by
    unfold filed
    cases ho : streamIdIsOutbound c sid <;> simp only [ho, if_true, Bool.false_eq_true, if_false] at hlt ⊢
    · exact hin c sid ow wm hc ho hlt hle
    · exact hout c sid ow wm hc ho hlt hle) fun _ _ => hc⟩

/-- `_refuse_pushed_stream` remembers an id of the peer's above the inbound mark as reset, and moves the mark there -/
theorem Keeps.refusePushedStream_of
    (h : ∀ c p, P c → streamIdIsOutbound c p = false → c.highestIn < p →
      P { c with highestIn := p, closedStreams := closedInsert c.closedStreams p (some .SEND_RST_STREAM) })
    (p : Int) : Keeps P (refusePushedStream p) := by
  unfold refusePushedStream
  refine .bind (.modifyS fun c hc => ?_) fun _ => .pure _
  split
  · rename_i hg
    simp only [Bool.and_eq_true, Bool.not_eq_true', decide_eq_true_eq] at hg
    exact h c p hc hg.1 hg.2
  · exact hc

theorem Keeps.remoteWindowChange_of (h : ∀ c x, P c → P { c with streams := x }) (ch : List (Int × Option Int × Int)) :
    Keeps P (remoteWindowChange ch) := by
  have (o n : Int) : Keeps P (flowControlChangeFromSettings o n) :=
    .of_state fun c hc => h c _ hc
  unfold remoteWindowChange
  keeps_walk [this _ _]

theorem Keeps.localWindowChange_of (h : ∀ c x, P c → P { c with streams := x }) (ch : List (Int × Option Int × Int)) :
    Keeps P (localWindowChange ch) := by
  have (o n : Int) : Keeps P (inboundFlowControlChangeFromSettings o n) :=
    .of_state fun c hc => h c _ hc
  unfold localWindowChange
  keeps_walk [this _ _]

theorem remoteOtherChanges_of
    (h : ∀ c e hp m s, P c → P { c with encTableSize := e, hp := hp, maxOutFrame := m, streams := s })
    (ch : List (Int × Option Int × Int)) (c : Conn) (hc : P c) : P (remoteOtherChanges ch c) :=
  remoteOtherChanges_eq ch c ▸ h c _ _ _ _ hc

theorem localOtherChanges_of (h : ∀ c l f t, P c → P { c with decMaxHeaderList := l, maxInFrame := f, decMaxTableSize := t })
    (ch : List (Int × Option Int × Int)) (c : Conn) (hc : P c) : P (localOtherChanges ch c) :=
  localOtherChanges_eq ch c ▸ h c _ _ _ hc

theorem Keeps.prepare_of (h : ∀ c o s, P c → P { c with out := o, sent := s }) (fs : List Frame) :
    Keeps P (prepareForSending fs) := by
  unfold prepareForSending
  keeps_walk [Keeps.modifyS fun c hc => h c _ _ hc]

end

/-- `P` survives the two blocks nearly every handler and call is made of: an input to the connection state machine
    and a method of a stream of the table.  (Counting the open streams, which moves closed ones out of the table, is
    not among them: the handlers that do not count keep the keys of the table, Props/C27.)  `F` is the family of
    predicates on stream objects that such a method has to keep for `P` to survive it (empty for a `P` that does not
    read the stream objects).  The default of a field, here and below, is its proof for a predicate that does not read
    what the block writes. -/
structure BasePrims (P : Conn → Prop) (F : (Stream → Prop) → Prop := fun _ => False) : Prop where
  /-- the stream predicates of `F` survive the blocks of the stream methods, the writes to the outbound window
      included (so a bound on that window cannot be in `F`) -/
  streams : ∀ S, F S → StreamPrims S ∧ ∀ st w, S st → S { st with outWin := w } := by exact fun _ h => h.elim
  connInput : ∀ i, Keeps P (connInput i) := by exact Keeps.connInput_of fun _ _ h => h
  withStream : ∀ {α : Type} sid (m : M Stream α), (∀ S, F S → Keeps S m) → Keeps P (withStream sid m) := by
    exact fun sid m _ => Keeps.withStream_of (fun _ _ h => h) sid m

namespace BasePrims
variable {P : Conn → Prop} {F : (Stream → Prop) → Prop} (hP : BasePrims P F)
include hP

/-- a stream method on a stream of the table: it is walked for the stream predicates of `F` -/
theorem stream {α : Type} (sid : Int) {m : M Stream α}
    (hm : ∀ S, StreamPrims S → (∀ st w, S st → S { st with outWin := w }) → Keeps S m) :
    Keeps P (Conn.withStream sid m) :=
  hP.withStream sid m fun S hS => hm S (hP.streams S hS).1 (hP.streams S hS).2

theorem pingFrame (a : Bool) (p : Bytes) : Keeps P (receivePingFrame a p) := by
  unfold receivePingFrame; keeps_walk [hP.connInput _]

theorem priorityFrame (sid : Int) (p : Prio) : Keeps P (receivePriorityFrame sid p) := by
  unfold receivePriorityFrame; keeps_walk [hP.connInput _]

theorem rstFrame (sid code : Int) : Keeps P (receiveRstStreamFrame sid code) := by
  unfold receiveRstStreamFrame
  keeps_walk [hP.connInput _, Keeps.getStreamById _, hP.stream _ fun _ hS _ => hS.streamReset _]

theorem altsvcFrame (sid : Int) (o f : Bytes) : Keeps P (receiveAltSvcFrame sid o f) := by
  unfold receiveAltSvcFrame
  keeps_walk [hP.connInput _, Keeps.getStreamById _, hP.stream _ fun _ hS _ => hS.receiveAltSvc _ _]

theorem continuationFrame (sid : Int) : Keeps P (receiveNakedContinuation sid) := by
  unfold receiveNakedContinuation
  keeps_walk [Keeps.getStreamById _, hP.stream _ fun _ hS _ => hS.processInput _]

/-- WINDOW_UPDATE on stream 0 assigns the connection window what `guard_increment_window` lets through -/
theorem windowUpdateFrame (sid incr : Int)
    (hw : ∀ c w, guard_increment_window c.outWin incr = .ok w → P c → P { c with outWin := w }) :
    Keeps P (receiveWindowUpdateFrame sid incr) := by
  unfold receiveWindowUpdateFrame
  refine (hP.connInput _).bind fun _ => Keeps.ite ?_ ⟨fun c hc => ?_⟩
  · keeps_walk [Keeps.getStreamById _, hP.stream _ fun _ hS hs => hS.receiveWindowUpdate _ fun st w _ => hs st w]
  · wps
    cases hg : guard_increment_window c.outWin incr with
    | ok w => exact hw c w hg hc
    | error e => exact hc

/-- GOAWAY empties the output buffer -/
theorem goawayFrame (hout : ∀ c, P c → P { c with out := [] }) (l k : Int) (x : Bytes) : Keeps P (receiveGoawayFrame l k x) := by
  unfold receiveGoawayFrame clearOutboundDataBuffer; keeps_walk [hP.connInput _, Keeps.modifyS hout]

end BasePrims

/-- `P` survives every building block of the frame handlers -/
structure RecvPrims (P : Conn → Prop) (F : (Stream → Prop) → Prop := fun _ => False) : Prop extends BasePrims P F where
  openStreams : ∀ r, Keeps P (openStreams r) := by exact Keeps.openStreams_of fun _ _ _ h => h
  /-- the connection's inbound window manager is charged the flow-controlled length of a parsed frame … -/
  consumed : ∀ n, 0 ≤ n → Keeps P (onConnWM (·.window_consumed n)) := by exact fun _ _ => Keeps.onConnWM_of (fun _ _ h => h) _
  /-- … and credited what the application, or the handler of a frame nobody wants, hands back -/
  processed : ∀ n, Keeps P (onConnWM (·.process_bytes n)) := by exact fun _ => Keeps.onConnWM_of (fun _ _ h => h) _
  decodeHeaders : ∀ b, Keeps P (decodeHeaders b) := by exact Keeps.decodeHeaders_of fun _ _ h => h
  beginNewStream : ∀ sid odd, Keeps P (beginNewStream sid odd) := by
    exact Keeps.beginNewStream_of (fun c sid _ _ h _ _ _ => by rw [putStream_eq]; exact h)
      (fun c sid _ _ h _ _ _ => by rw [putStream_eq]; exact h)
  refusePushedStream : ∀ p, Keeps P (refusePushedStream p) := by exact Keeps.refusePushedStream_of fun _ _ h _ _ => h
  remoteWindowChange : ∀ ch, Keeps P (remoteWindowChange ch) := by exact Keeps.remoteWindowChange_of fun _ _ h => h
  localWindowChange : ∀ ch, Keeps P (localWindowChange ch) := by exact Keeps.localWindowChange_of fun _ _ h => h
  setRemoteSettings : ∀ c s, P c → P { c with remoteSettings := s } := by exact fun _ _ h => h
  setLocalSettings : ∀ c s, P c → P { c with localSettings := s } := by exact fun _ _ h => h
  remoteOtherChanges : ∀ ch c, P c → P (remoteOtherChanges ch c) := by exact remoteOtherChanges_of fun _ _ _ _ _ h => h
  localOtherChanges : ∀ ch c, P c → P (localOtherChanges ch c) := by exact localOtherChanges_of fun _ _ _ _ h => h

namespace RecvPrims
variable {P : Conn → Prop} {F : (Stream → Prop) → Prop} (hP : RecvPrims P F)
include hP

/-- DATA charges the connection's window manager its flow-controlled length (`hc`, not the field `consumed`: that the
    length is not negative is known only where the parser's frame is in sight, in `dispatch`) -/
theorem dataFrame (sid : Int) (p : Bytes) (es : Bool) (fcl : Int) (hc : Keeps P (onConnWM (·.window_consumed fcl))) :
    Keeps P (receiveDataFrame sid p es fcl) := by
  unfold receiveDataFrame
  keeps_walk [hP.connInput _, Keeps.getStreamById _, hP.stream _ fun _ hS _ => hS.receiveData _ _ _, hc, hP.processed _]

theorem settingsFrame (ack : Bool) (items : List (Int × Int)) : Keeps P (receiveSettingsFrame ack items) := by
  unfold receiveSettingsFrame localSettingsAcked acknowledgeSettings
  keeps_walk [hP.connInput _, hP.localWindowChange _, hP.remoteWindowChange _,
    Keeps.modifyS fun c => hP.setLocalSettings c _, Keeps.modifyS fun c => hP.setRemoteSettings c _,
    Keeps.modifyS (hP.localOtherChanges _), Keeps.modifyS (hP.remoteOtherChanges _)]

theorem getOrCreateStream (sid : Int) (odd : Bool) : Keeps P (getOrCreateStream sid odd) := by
  unfold Conn.getOrCreateStream; keeps_walk [hP.beginNewStream _ _]

theorem headersRest (sid : Int) (b : Bytes) (es : Bool) (pr : Option Prio) : Keeps P (receiveHeadersRest sid b es pr) := by
  unfold receiveHeadersRest
  keeps_walk [hP.connInput _, hP.decodeHeaders _, hP.getOrCreateStream _ _,
    hP.stream _ fun _ hS _ => hS.receiveHeaders _ _ _, hP.priorityFrame _ _]

theorem headersFrame (sid : Int) (b : Bytes) (es : Bool) (pr : Option Prio) : Keeps P (receiveHeadersFrame sid b es pr) := by
  unfold receiveHeadersFrame
  keeps_walk [Keeps.openIn_of hP.openStreams, hP.headersRest _ _ _ _]

theorem pushKnown (sid p : Int) (hs : List Header) : Keeps P (receivePushPromiseKnown sid p hs) := by
  unfold receivePushPromiseKnown
  keeps_walk [Keeps.openIn_of hP.openStreams, hP.stream _ fun _ hS _ => hS.receivePushPromiseInBand _ _ _,
    hP.stream _ fun _ hS _ => hS.remotelyPushed _, hP.refusePushedStream _, hP.beginNewStream _ _]

theorem pushUnknown (sid p : Int) : Keeps P (receivePushPromiseUnknown sid p) := by
  unfold receivePushPromiseUnknown; keeps_walk [hP.refusePushedStream _]

theorem pushFrame (sid p : Int) (b : Bytes) : Keeps P (receivePushPromiseFrame sid p b) := by
  unfold receivePushPromiseFrame
  keeps_walk [hP.connInput _, hP.decodeHeaders _, Keeps.getStreamById _, hP.pushKnown _ _ _, hP.pushUnknown _ _]

theorem dispatch (hout : ∀ c, P c → P { c with out := [] }) (rf : RFrame)
    (hw : ∀ sid incr, rf.frame = .windowUpdate sid incr →
      ∀ c w, guard_increment_window c.outWin incr = .ok w → P c → P { c with outWin := w }) :
    Keeps P (dispatch rf) := by
  unfold Conn.dispatch
  split
  · exact hP.headersFrame _ _ _ _
  · exact hP.pushFrame _ _ _
  · exact hP.settingsFrame _ _
  · exact hP.dataFrame _ _ _ _ (hP.consumed _ (Int.natCast_nonneg _))
  · exact hP.windowUpdateFrame _ _ (hw _ _ ‹_›)
  · exact hP.pingFrame _ _
  · exact hP.rstFrame _ _
  · exact hP.priorityFrame _ _
  · exact hP.goawayFrame hout _ _ _
  · exact hP.continuationFrame _
  · exact hP.altsvcFrame _ _ _
  · exact Keeps.pure _

end RecvPrims

/-- `P` survives what the public calls that open no stream are made of (`send_data`'s assignment to the connection
    window apart) -/
structure CallPrims (P : Conn → Prop) (F : (Stream → Prop) → Prop := fun _ => False) : Prop extends BasePrims P F where
  openStreams : ∀ r, Keeps P (openStreams r) := by exact Keeps.openStreams_of fun _ _ _ h => h
  processed : ∀ n, Keeps P (onConnWM (·.process_bytes n)) := by exact fun _ => Keeps.onConnWM_of (fun _ _ h => h) _
  opened : ∀ n, Keeps P (onConnWM (·.window_opened n)) := by exact fun _ => Keeps.onConnWM_of (fun _ _ h => h) _
  prepare : ∀ fs, Keeps P (prepareForSending fs) := by exact Keeps.prepare_of fun _ _ _ h => h
  setOut : ∀ c o, P c → P { c with out := o } := by exact fun _ _ h => h
  /-- `update_settings` stores what `Settings.update` makes of a list it has validated -/
  updateLocal : ∀ items, validateSettingsList items = .ok () → ∀ c, P c →
    P { c with localSettings := (Settings.update c.localSettings items).2 } := by exact fun _ _ _ h => h

namespace CallPrims
variable {P : Conn → Prop} {F : (Stream → Prop) → Prop} (hP : CallPrims P F)
include hP

theorem ping (d : Bytes) : Keeps P (ping d) := by
  unfold Conn.ping; keeps_walk [hP.connInput _, hP.prepare _]

theorem resetStream (sid code : Int) : Keeps P (resetStream sid code) := by
  unfold Conn.resetStream
  keeps_walk [hP.connInput _, hP.prepare _, Keeps.getStreamById _, hP.stream _ fun _ hS _ => hS.resetStream _]

theorem endStream (sid : Int) : Keeps P (endStream sid) := by
  unfold Conn.endStream
  keeps_walk [hP.connInput _, hP.prepare _, Keeps.getStreamById _, hP.stream _ fun _ hS _ => hS.endStream]

theorem incrementWindow (n : Int) (sid : Option Int) : Keeps P (incrementFlowControlWindow n sid) := by
  unfold incrementFlowControlWindow
  keeps_walk [hP.connInput _, hP.prepare _, Keeps.getStreamById _,
    hP.stream _ fun _ hS _ => hS.increaseFlowControlWindow _, hP.opened _]

theorem closeConnection (code : Int) (extra : Option Bytes) (last : Option Int) : Keeps P (closeConnection code extra last) := by
  unfold Conn.closeConnection; keeps_walk [hP.connInput _, hP.prepare _]

theorem updateSettings (items : List (Int × Int)) : Keeps P (updateSettings items) := by
  unfold Conn.updateSettings
  refine ⟨fun c hc => ?_⟩
  wps
  cases hv : validateSettingsList items with
  | error e => exact hc
  | ok u =>
    refine ite_intro (fun _ => hc) fun _ => (hP.connInput _).cps c hc (fun _ c1 h1 => ?_) fun _ _ h => h
    wps
    have k := hP.updateLocal items hv c1 h1
    split <;> rename_i heq <;> rw [heq] at k <;> wps
    · exact k
    · exact (hP.prepare _).run _ k

theorem altsvc (f : Bytes) (o : Option Bytes) (sid : Option Int) : Keeps P (advertiseAlternativeService f o sid) := by
  unfold advertiseAlternativeService
  keeps_walk [hP.connInput _, hP.prepare _, Keeps.getStreamById _, hP.stream _ fun _ hS _ => hS.advertiseAltSvc _]

theorem prioritize (sid : Int) (w d : Option Int) (e : Option Bool) : Keeps P (prioritize sid w d e) := by
  unfold Conn.prioritize; keeps_walk [hP.connInput _, hP.prepare _]

theorem ackData (size sid : Int) : Keeps P (acknowledgeReceivedData size sid) := by
  unfold acknowledgeReceivedData ackCredit
  keeps_walk [hP.prepare _, Keeps.getStreamById _, hP.stream _ fun _ hS _ => hS.acknowledgeReceivedData _, hP.processed _]

theorem dataToSend (n : Option Int) : Keeps P (dataToSend n) := by
  unfold Conn.dataToSend; keeps_walk [Keeps.modifyS fun c => hP.setOut c _]

theorem clearOut : Keeps P clearOutboundDataBuffer := Keeps.modifyS fun c => hP.setOut c _

/-- `send_data` subtracts the flow-controlled length from the connection window: for a `P` that does not read the
    window (one that does needs to know that the length fits: Props/C03, `cw_sendData`) -/
theorem sendData (hw : ∀ c w, P c → P { c with outWin := w }) (sid : Int) (d : Bytes) (es : Bool) (pad : Option Int) :
    Keeps P (sendData sid d es pad) := by
  unfold Conn.sendData sendDataCore
  keeps_walk [hP.connInput _, hP.prepare _, Keeps.localWindow _, hP.stream _ fun _ hS hs => hS.sendData _ _ _ fun st => hs st _,
    Keeps.modifyS fun c => hw c _]

end CallPrims

/-- `P` survives every building block: those of the handlers, of the calls above, and of the calls that open streams.
    There is no family `F` here: `send_headers` and `push_stream` run their stream method together with the HPACK
    context (`withStreamHp`), which the walks of `StreamPrims` do not cover, so this is for a `P` that does not read the
    stream objects (`SO` and `WF`, which do, are carried through these four calls by Proofs/SendHeaders … Initiate). -/
structure ApiPrims (P : Conn → Prop) : Prop extends RecvPrims P, CallPrims P where
  withStreamHp : ∀ {α : Type} sid (m : SH α), Keeps P (withStreamHp sid m) := by exact Keeps.withStreamHp_of fun _ _ _ h => h
  /-- `initiate_connection` writes the preamble and the SETTINGS frame itself -/
  initiateWrite : ∀ c o s, P c → P { c with out := o, sent := s, preambleSent := true } := by exact fun _ _ _ h => h
  /-- `push_stream` takes the promised stream back when the promise is refused -/
  filterStreams : ∀ c f, P c → P { c with streams := c.streams.filter f } := by exact fun _ _ h => h
  /-- `send_headers` takes a refused request back: the stream goes and the mark returns to where the call found it -/
  restore : ∀ c0 c f, P c0 → P c → P { c with streams := c.streams.filter f, highestOut := c0.highestOut } := by
    exact fun _ _ _ _ h => h

namespace ApiPrims
variable {P : Conn → Prop} (hP : ApiPrims P)
include hP

theorem sendHeaders (sid : Int) (hs : List Header) (es : Bool) (pw pd : Option Int) (pe : Option Bool) :
    Keeps P (sendHeaders sid hs es pw pd pe) := by
  unfold Conn.sendHeaders sendHeadersTail addPriority
  -- `‹_›`: `P` of the state the call started in, which the `getS` at the head of `send_headers` reads
  keeps_walk [hP.connInput _, hP.prepare _, Keeps.getStreamById _, Keeps.openOut_of hP.openStreams, hP.getOrCreateStream _ _,
    hP.withStreamHp _ _, Keeps.modifyS fun c h => hP.restore _ c _ ‹_› h]

theorem pushStream (sid p : Int) (hs : List Header) : Keeps P (pushStream sid p hs) := by
  unfold Conn.pushStream
  keeps_walk [hP.connInput _, hP.prepare _, Keeps.getStreamById _, hP.beginNewStream _ _,
    hP.stream _ fun _ hS _ => hS.locallyPushed, hP.withStreamHp _ _, Keeps.modifyS fun c => hP.filterStreams c _]

theorem initiate : Keeps P initiateConnection := by
  unfold initiateConnection settingsFrameOfLocal
  keeps_walk [hP.connInput _, Keeps.modifyS fun c => hP.initiateWrite c _ _]

theorem upgrade (hdr : Option Bytes) :
    Keeps P (initiateUpgradeConnection (fun items => do let _ ← receiveSettingsFrame false items; pure ()) hdr) := by
  unfold initiateUpgradeConnection settingsFrameOfLocal
  keeps_walk [hP.connInput _, hP.initiate, hP.settingsFrame _ _, hP.beginNewStream _ _,
    hP.stream _ fun _ hS _ => hS.upgrade _]

end ApiPrims

/-! ### what `step` reports of a call -/

/-- what `step` reports of a call `m`, read off a `wp` fact about `m`: the report has a property that every return
    meeting `Q` and every raise meeting `E` has -/
theorem report_of_wp {α : Type} {f : α → Val} {m : CM α} {c : Conn} {Q : α → Conn → Prop} {E : Exc → Conn → Prop}
    {T : Conn × Obs → Prop} {r : Conn × Obs} (hr : (match m c with | (x, c') => (c', ({ res := resOf f x } : Obs))) = r)
    (h : wp m Q E c) (hok : ∀ a c', Q a c' → T (c', { res := .ok (f a) }))
    (herr : ∀ e c', E e c' → T (c', { res := resOf f (.error e) })) : T r := by
  subst hr
  unfold wp at h
  cases hm : m c with
  | mk x c' =>
    rw [hm] at h
    cases x with
    | ok a => exact hok a c' h
    | error e => exact herr e c' h

/-- for the calls `step` runs with `runU` (stated apart so that the kernel meets `runU` itself and does not have to
    compare two `match`es over a large method) -/
theorem report_of_wpU {m : CM Unit} {c : Conn} {Q : Unit → Conn → Prop} {E : Exc → Conn → Prop}
    {T : Conn × Obs → Prop} {r : Conn × Obs} (hr : runU m c = r) (h : wp m Q E c)
    (hok : ∀ c', Q () c' → T (c', { res := .ok .none }))
    (herr : ∀ e c', E e c' → T (c', { res := resOf (fun _ : Unit => Val.none) (.error e) })) : T r :=
  report_of_wp hr h (fun _ => hok) herr

variable {P : Conn → Prop}

theorem keeps_of_run {α : Type} (f : α → Val) (m : CM α) (c : Conn)
    (hk : wp m (fun _ c' => P c') (fun _ c' => P c') c) :
    P (match m c with | (r, c') => (c', ({ res := resOf f r } : Obs))).1 :=
  report_of_wp (T := fun r => P r.1) rfl hk (fun _ _ h => h) fun _ _ h => h

theorem keeps_of_runU (m : CM Unit) (c : Conn) (hk : wp m (fun _ c' => P c') (fun _ c' => P c') c) : P (runU m c).1 :=
  keeps_of_run _ m c hk
theorem keeps_of_runI (m : CM Int) (c : Conn) (hk : wp m (fun _ c' => P c') (fun _ c' => P c') c) : P (runI m c).1 :=
  keeps_of_run _ m c hk

theorem Raises.runU {R : Conn → Prop} {m : CM Unit} (h : Raises R m) (c : Conn) (hc : R c) :
    (runU m c).2.res.isOk = false ∧ R (runU m c).1 :=
  report_of_wpU (T := fun r => r.2.res.isOk = false ∧ R r.1) rfl (h.run c hc) (fun _ hf => hf.elim)
    fun e _ h' => ⟨by cases e <;> rfl, h'⟩

end H2
