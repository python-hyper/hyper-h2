/-
  Receive path, stream level: every H2Stream method reached from a received frame returns with the stream out of
  IDLE or raises a protocol error (never IndexError / KeyError / AttributeError / AssertionError / TypeError).
-/
import H2.Proofs.RecvFacts
import H2.Proofs.WinEq
namespace H2
open H2.Gen H2.Conn

def AllBytes (hs : List Header) : Prop := ∀ h ∈ hs, h.name.isStr = false ∧ h.value.isStr = false

def WellTyped (hs : List Header) : Prop := ∀ h ∈ hs, h.name.isStr = h.value.isStr

theorem isInformationalResponse_wt (hs : List Header) (h : WellTyped hs) : ∃ b, isInformationalResponse hs = .ok b := by
  induction hs with
  | nil => exact ⟨false, rfl⟩
  | cons x xs ih =>
    unfold isInformationalResponse
    have hx := h x List.mem_cons_self
    have ih' := ih (fun y hy => h y (List.mem_cons_of_mem _ hy))
    split
    · exact ⟨false, rfl⟩
    · split
      · exact ih'
      · split
        · rename_i hc; simp [hx] at hc
        · exact ⟨_, rfl⟩

theorem isInformationalResponse_ok (hs : List Header) (h : AllBytes hs) : ∃ b, isInformationalResponse hs = .ok b :=
  isInformationalResponse_wt hs fun x hx => (h x hx).1.trans (h x hx).2.symm

/-- the exceptions some `except` clause of the receive path swallows (the connection goes on afterwards) -/
def isCaught (e : Exc) : Bool := e.isInstance .NoSuchStreamError || e.isInstance .StreamIDTooLowError

/-- a protocol error that no `except` clause of the receive path swallows: it goes up to `receive_data` and ends the
    connection -/
def Plain (e : Exc) : Prop := GoodExc e ∧ isCaught e = false

/-- error postcondition of stream methods: a protocol error; if it is one that is swallowed, the stream has left IDLE -/
def SE (e : Exc) (st' : Stream) : Prop := GoodExc e ∧ (isCaught e = true → st'.sm.state ≠ .IDLE)

theorem SE_of_plain {e : Exc} {st' : Stream} (h : Plain e) : SE e st' :=
  ⟨h.1, fun hc => by rw [h.2] at hc; contradiction⟩
theorem SE_of_state {e : Exc} {st' : Stream} (h : GoodExc e) (hs : st'.sm.state ≠ .IDLE) : SE e st' := ⟨h, fun _ => hs⟩

theorem plain_mkExc (cls : ExcClass) (h : cls.isSub .ProtocolError = true)
    (h2 : (cls.isSub .NoSuchStreamError || cls.isSub .StreamIDTooLowError) = false) : Plain (mkExc cls) :=
  ⟨goodExc_mkExc _ _ h, h2⟩

theorem plain_pErr : Plain pErr := plain_mkExc .ProtocolError (by decide) (by decide)
theorem plain_protoErr : Plain protoErr := plain_pErr
theorem plain_protoErr' : Plain protoErr' := plain_pErr
theorem plain_flowControl : Plain (ofPyErr (.h2 .FlowControlError)) :=
  plain_mkExc .FlowControlError (by decide) (by decide)
theorem plain_giw {a b : Int} {e : PyErr} (h : guard_increment_window a b = .error e) : Plain (ofPyErr e) :=
  giw_err a b e h ▸ plain_flowControl

/-- the frames a frame handler may hand back to be sent -/
def SmallFrame : Frame → Prop
  | .settings true [] => True
  | .ping _ p => p.length = 8
  | .rstStream _ code => 0 ≤ code ∧ code < 4294967296
  | .windowUpdate _ _ => True
  | _ => False

def FramesOk (fs : List Frame) : Prop := ∀ f ∈ fs, SmallFrame f

theorem framesOk_nil : FramesOk [] := List.forall_mem_nil _
theorem framesOk_one {f : Frame} (h : SmallFrame f) : FramesOk [f] := List.forall_mem_singleton.mpr h
theorem framesOk_append {a b : List Frame} (ha : FramesOk a) (hb : FramesOk b) : FramesOk (a ++ b) :=
  List.forall_mem_append.mpr ⟨ha, hb⟩

def NoFrames (fe : FE) : Prop := fe.1 = []

theorem framesOk_of_noFrames {fe : FE} (h : NoFrames fe) : FramesOk fe.1 := by rw [h]; exact framesOk_nil

/-- what a stream method on the receive path may do: return a value that satisfies `R`, with the stream out of IDLE,
    or raise a protocol error -/
def SGood {α} (R : α → Prop) (m : M Stream α) (st : Stream) : Prop :=
  wp m (fun a st' => st'.sm.state ≠ .IDLE ∧ R a) SE st

theorem SGood.mono {α} {R R' : α → Prop} {m : M Stream α} {st : Stream} (h : SGood R m st) (hr : ∀ a, R a → R' a) :
    SGood R' m st :=
  wp_mono h (fun a _ h' => ⟨h'.1, hr a h'.2⟩) fun _ _ h' => h'

theorem trackContentLength_good {Q : Unit → Stream → Prop} (n : Int) (es : Bool) (st : Stream)
    (hq : ∀ st', st'.sm = st.sm → Q () st') : wp (Stream.trackContentLength n es) Q SE st := by
  simp only [Stream.trackContentLength]
  wps
  repeat' split
  all_goals first | exact hq _ rfl | exact SE_of_plain (plain_mkExc _ (by decide) (by decide))

theorem initializeContentLength_good {Q : Unit → Stream → Prop} (hs : List Header) (st : Stream)
    (hq : ∀ st', st'.sm = st.sm → Q () st') : wp (Stream.initializeContentLength hs) Q SE st := by
  simp only [Stream.initializeContentLength]
  wps
  split
  all_goals first | exact hq _ rfl | exact SE_of_plain plain_protoErr'

theorem validateInbound_err (hs : List Header) (fl : HdrFlags) (e : Exc) (h : validateInbound hs fl = .error e) :
    e = protoErr := by
  unfold validateInbound at h
  simp only at h
  split at h
  · simp at h
  · injection h with h; exact h.symm

theorem decodeText_err (enc : Encoding) (hs : List Header) (e : Exc) (h : decodeText enc hs = .error e) :
    e = protoErr := by
  unfold decodeText at h
  split at h
  · simp at h
  · split at h
    · simp at h
    · injection h with h; exact h.symm

theorem processReceivedHeaders_err (cfg : Config) (hs : List Header) (fl : HdrFlags) (e : Exc)
    (h : processReceivedHeaders cfg hs fl = .error e) : e = protoErr := by
  unfold processReceivedHeaders at h
  simp only [bind, Except.bind, pure, Except.pure] at h
  split at h
  · split at h
    · rename_i e' he
      injection h with h; subst h
      exact validateInbound_err _ _ _ he
    · exact decodeText_err _ _ _ h
  · exact decodeText_err _ _ _ h

theorem wp_liftExcept_good {σ α} {Q : α → σ → Prop} {E : Exc → σ → Prop} (r : Except Exc α) (s : σ)
    (hq : ∀ a, r = .ok a → Q a s) (he : ∀ e, r = .error e → E e s) : wp (liftExcept r : M σ α) Q E s := by
  rw [wp_liftExcept]
  cases r with
  | ok a => exact hq a rfl
  | error e => exact he e rfl

/-- the validation flags `_build_hdr_validation_flags` derives from the first state-machine event (C15 states its
    theorems with it) -/
def C15.FlagsOf (e : SEv) (fl : HdrFlags) : Prop :=
  fl.isTrailer = (e == .TrailersSent || e == .TrailersReceived) ∧
  fl.isResponse = (e == .ResponseSent || e == .ResponseReceived || e == .InformationalResponseReceived)

theorem wp_buildHdrFlags {Q : HdrFlags → Stream → Prop} {E : Exc → Stream → Prop} (e : SEv) (rest : List SEv)
    (st : Stream) (hq : ∀ fl, C15.FlagsOf e fl → Q fl st) : wp (buildHdrFlags (e :: rest)) Q E st := by
  simp only [buildHdrFlags]
  wps
  exact hq _ ⟨rfl, rfl⟩

theorem step_not_idle {sh sh' : Shape} {i : StreamInputs} (hi : i ≠ .RECV_ALTERNATIVE_SERVICE ∨ sh.state ≠ .IDLE)
    (hs : (stepShape sh i).2 = sh') : sh'.state ≠ .IDLE := by
  intro h
  obtain ⟨h1, h2⟩ := stepShape_idle (hs ▸ h)
  exact hi.elim (· h2) (· h1)

theorem wp_processInput_SE {Q : List SEv → Stream → Prop} (i : StreamInputs) (st : Stream)
    (hi : i ≠ .RECV_ALTERNATIVE_SERVICE ∨ st.sm.state ≠ .IDLE)
    (hq : ∀ evs sh, stepShape st.sm.sh i = (.ok evs, sh) → sh.state ≠ .IDLE → Q evs (st.withShape sh)) :
    wp (processInput i) Q SE st :=
  wp_processInput_rule i st (fun evs sh h => hq evs sh h (step_not_idle hi (congrArg Prod.snd h)))
    fun _ _ hx _ hsh => SE_of_state hx.goodExc (step_not_idle hi hsh)

/-- `if end_stream: process_input(RECV_END_STREAM)` in `receive_headers` / `receive_data`, on a stream where the table
    has END_STREAM report something (`hend`): the check `end_stream and not events` that follows never fires -/
theorem wp_endStreamInput {α} {Q : α → Stream → Prop} (es : Bool) (k : List SEv → M Stream α) (st : Stream)
    (hni : st.sm.state ≠ .IDLE)
    (hend : ∀ {evs sh}, stepShape st.sm.sh .RECV_END_STREAM = (.ok evs, sh) → evs ≠ [])
    (hk : ∀ evs st', st'.sm.state ≠ .IDLE → st'.sid = st.sid → ¬ (es && evs.isEmpty) = true → wp (k evs) Q SE st') :
    wp (if es then processInput .RECV_END_STREAM >>= k else pure [] >>= k) Q SE st := by
  split
  · rw [wp_bind]
    apply wp_processInput_SE _ _ (.inl (by decide))
    intro evs sh hstep hni'
    exact hk _ _ hni' rfl (by simp [hend hstep])
  · rename_i hes
    rw [wp_bind, wp_pure]
    exact hk _ _ hni rfl (by simp [hes])

/-- what `receive_headers` on stream `sid` hands back when it returns: no frames, and one header event (trailers only
    with END_STREAM), carrying what `_process_received_headers` made of the block under the validation flags of that
    event, followed by StreamEnded exactly when END_STREAM was set -/
def HdrRet (cfg : Config) (hs : List Header) (es : Bool) (sid : Int) (r : List Frame × List Event) : Prop :=
  ∃ k fl hs' ev, C15.FlagsOf k fl ∧ processReceivedHeaders cfg hs fl = .ok hs' ∧ hdrEvent k sid hs' es = some ev ∧
    ((k == SEv.TrailersReceived) = true → es = true) ∧ r = ([], ev :: if es then [Event.StreamEnded sid] else [])

theorem HdrRet.noFrames {cfg : Config} {hs : List Header} {es : Bool} {sid : Int} {r : List Frame × List Event}
    (h : HdrRet cfg hs es sid r) : NoFrames r := by
  obtain ⟨_, _, _, _, _, _, _, _, rfl⟩ := h; rfl

theorem sgood_receiveHeaders (cfg : Config) (hs : List Header) (es : Bool) (st : Stream) {b : Bool}
    (hb : isInformationalResponse hs = .ok b) :
    SGood (HdrRet cfg hs es st.sid) (Stream.receiveHeaders cfg hs es) st := by
  unfold SGood Stream.receiveHeaders
  rw [hb, wp_bind, wp_liftExcept]
  dsimp -zeta only
  split
  · exact SE_of_plain plain_protoErr'
  rw [wp_bind]
  apply wp_processInput_SE _ _ (.inl (by cases b <;> decide))
  intro evs sh hstep hni
  -- the 2 × 7 rows of RECV_HEADERS and RECV_INFORMATIONAL_HEADERS: one header event, and END_STREAM after it reports
  obtain ⟨e0, rfl, hk⟩ := oneEv_of_row (p := fun e => (hdrEvent e 0 [] false).isSome)
    (by cases b <;> cases st.sm.sh.state <;> rfl) hstep
  have hdr : ∀ sid hs' se, hdrEvent e0 sid hs' se ≠ none := by
    intro sid hs' se; cases e0 <;> simp [hdrEvent] at hk ⊢
  extract_lets jp
  refine wp_endStreamInput es jp _ hni (endEvs_of_row (by cases b <;> cases st.sm.sh.state <;> rfl) hstep) ?_
  intro esEvents st1 hst hsid hes
  unfold jp
  dsimp -zeta only
  rw [if_neg hes]
  -- each join point of the `do` block is verified once, for every stream with the state machine as it is here: nothing
  -- from here on writes it
  extract_lets jp2 jp1
  have h2 : ∀ st2 : Stream, st2.sm = st1.sm → ((e0 == .TrailersReceived) = true → es = true) →
      SGood (HdrRet cfg hs es st.sid) (jp2 ()) st2 := by
    intro st2 hsm htr
    unfold SGood jp2
    rw [wp_bind]
    apply wp_buildHdrFlags
    intro fl hfl
    rw [wp_bind]
    apply wp_liftExcept_good
    · intro hs' hok
      rw [wp_bind, wp_getS, show st2.sid = st.sid from (congrArg SM.sid hsm).trans hsid]
      split
      · rename_i hnone; exact absurd hnone (hdr _ _ _)
      · exact ⟨hsm ▸ hst, e0, fl, hs', _, hfl, hok, ‹_›, htr, rfl⟩
    · intro e he; exact processReceivedHeaders_err _ _ _ _ he ▸ SE_of_plain plain_protoErr
  have h1 : ∀ st2 : Stream, st2.sm = st1.sm → ((e0 == .TrailersReceived) = true → es = true) →
      SGood (HdrRet cfg hs es st.sid) (jp1 ()) st2 := by
    intro st2 hsm htr
    unfold SGood jp1
    split
    · rw [wp_bind]
      exact trackContentLength_good _ _ _ fun st3 hsm3 => h2 _ (hsm3.trans hsm) htr
    · exact h2 _ hsm htr
  split
  · rw [wp_bind]
    split
    · exact SE_of_plain plain_protoErr'
    · rename_i hes'
      exact h1 _ rfl fun _ => by simpa using hes'
  · rename_i htr
    rw [wp_bind]
    exact initializeContentLength_good _ _ fun st2 hsm => h1 _ hsm fun h => absurd h htr

theorem receiveHeaders_ret (cfg : Config) (hs : List Header) (es : Bool) (st : Stream) :
    wp (Stream.receiveHeaders cfg hs es) (fun r _ => HdrRet cfg hs es st.sid r) (fun _ _ => True) st := by
  cases hb : isInformationalResponse hs with
  | ok b => exact wp_mono (sgood_receiveHeaders cfg hs es st hb) (fun _ _ h => h.2) (fun _ _ _ => trivial)
  | error e => unfold Stream.receiveHeaders; rw [hb, wp_bind, wp_liftExcept]; trivial

theorem wm_process_ok (w : WindowManager) (n : Int) : ∃ v w', w.process_bytes n = (.ok v, w') :=
  have ⟨v, w', h, _⟩ := w.process_bytes_spec n
  ⟨v, w', h⟩

/-- a WindowManager call whose only failure is FlowControlError, as `wp_onWM` / `wp_onConnWM` present it (`set` files
    the window manager in the stream or the connection) -/
theorem wres_good {σ} {Q : Option Int → σ → Prop} {E : Exc → σ → Prop} (r : WRes) (set : WindowManager → σ)
    (hf : ∀ e w', r = (.error e, w') → e = .h2 .FlowControlError)
    (hq : ∀ v w, Q v (set w)) (he : ∀ e w, Plain e → E e (set w)) :
    match (generalizing := false) r with
    | (.ok v, w) => Q v (set w)
    | (.error e, w) => E (ofPyErr e) (set w) := by
  obtain ⟨r, w⟩ := r
  cases r with
  | ok v => exact hq v w
  | error e => rw [hf e w rfl]; exact he _ w plain_flowControl

theorem wp_onWM_good {Q : Option Int → Stream → Prop} {E : Exc → Stream → Prop} (f : WindowManager → WRes) (st : Stream)
    (hf : ∀ e w', f st.inWM = (.error e, w') → e = .h2 .FlowControlError)
    (hq : ∀ v w, Q v { st with inWM := w }) (he : ∀ e w, Plain e → E e { st with inWM := w }) :
    wp (onWM f) Q E st := by
  rw [wp_onWM]
  exact wres_good (f st.inWM) (fun w => { st with inWM := w }) hf hq he

def DataRet (d : Bytes) (es : Bool) (fcl : Int) (r : List Frame × List Event) : Prop :=
  ∃ sid, r = ([], Event.DataReceived sid d fcl es :: if es then [Event.StreamEnded sid] else [])

theorem DataRet.noFrames {d : Bytes} {es : Bool} {fcl : Int} {r : List Frame × List Event} (h : DataRet d es fcl r) :
    NoFrames r := by
  obtain ⟨_, rfl⟩ := h; rfl

theorem sgood_receiveData (d : Bytes) (es : Bool) (fcl : Int) (st : Stream) :
    SGood (DataRet d es fcl) (Stream.receiveData d es fcl) st := by
  unfold SGood Stream.receiveData
  wps
  apply wp_processInput_SE _ _ (.inl (by decide))
  intro evs sh hstep hni1
  -- the 7 rows of RECV_DATA: an event, and END_STREAM after it reports
  obtain ⟨e1, rest, rfl⟩ := List.exists_cons_of_ne_nil (evs_of_row (by cases st.sm.sh.state <;> rfl) hstep)
  have hend : ∀ {evs2 sh2}, stepShape sh .RECV_END_STREAM = (.ok evs2, sh2) → evs2 ≠ [] :=
    endEvs_of_row (by cases st.sm.sh.state <;> rfl) hstep
  wps
  apply wp_onWM_good
  · intro e w' h; exact wm_consumed_err _ _ _ _ h
  · intro v w
    wps
    apply trackContentLength_good
    intro st' hsm
    apply wp_endStreamInput es _ st' (by rw [hsm]; exact hni1) (by rw [hsm]; exact hend)
    intro evs2 st2 hni2 _ hes
    rw [wp_ite, if_neg hes]
    wps
    exact ⟨hni2, _, rfl⟩
  · intro e w hg; exact SE_of_plain hg

/-- what `receive_push_promise_in_band` on stream `sid` hands back when it returns: no frames, and PushedStreamReceived
    with what `_process_received_headers` made of the block as a pushed request -/
def PushRet (cfg : Config) (promised : Int) (hs : List Header) (sid : Int) (r : FE) : Prop :=
  ∃ fl hs', fl.isTrailer = false ∧ fl.isResponse = false ∧ fl.isPush = true ∧
    processReceivedHeaders cfg hs fl = .ok hs' ∧ r = ([], [Event.PushedStreamReceived (some promised) sid hs'])

/-- `receive_push_promise_in_band` on any stream: the one thing that can go wrong besides a protocol error is the
    missing event of an IDLE stream (a stream of the table has left IDLE) -/
theorem receivePushPromiseInBand_spec (cfg : Config) (promised : Int) (hs : List Header) (st : Stream) :
    wp (Stream.receivePushPromiseInBand cfg promised hs)
      (fun a st' => st'.sm.state ≠ .IDLE ∧ PushRet cfg promised hs st.sid a)
      (fun e st' => SE e st' ∨ st.sm.state = .IDLE) st := by
  unfold Stream.receivePushPromiseInBand
  wps
  have hout : ∀ {sh}, (stepShape st.sm.sh .RECV_PUSH_PROMISE).2 = sh → sh.state ≠ .IDLE :=
    step_not_idle (.inl (by decide))
  apply wp_processInput_rule _ _ _ fun e sh hx _ hsh => .inl (SE_of_state hx.goodExc (hout hsh))
  intro evs sh hstep
  cases evs with
  | nil =>
    -- of the 7 rows only IDLE's accepts the input without reporting an event
    exact .inr (eq_of_beq (step_res_ok (p := fun r => match r with | .ok [] => st.sm.sh.state == .IDLE | _ => true)
      (by cases st.sm.sh.state <;> rfl) hstep))
  | cons e rest =>
    -- the rows report PushedStreamReceived first: that is what makes `buildHdrFlags` set `isPush`
    cases firstEv_of_row (ev := .PushedStreamReceived) (by cases st.sm.sh.state <;> rfl) hstep
    simp only [buildHdrFlags]
    wps
    cases hprh : processReceivedHeaders cfg hs _ with
    | error e => exact .inl (processReceivedHeaders_err _ _ _ _ hprh ▸ SE_of_plain plain_protoErr)
    | ok hs' => exact ⟨hout (congrArg Prod.snd hstep), _, hs', rfl, rfl, rfl, hprh, rfl⟩

theorem sgood_receivePushPromiseInBand (cfg : Config) (promised : Int) (hs : List Header) (st : Stream)
    (hni : st.sm.state ≠ .IDLE) : SGood NoFrames (Stream.receivePushPromiseInBand cfg promised hs) st :=
  wp_mono (receivePushPromiseInBand_spec cfg promised hs st)
    (fun _ _ h => ⟨h.1, by obtain ⟨_, _, _, _, _, _, rfl⟩ := h.2; rfl⟩) fun _ _ h => h.resolve_right hni

theorem receivePushPromiseInBand_ret (cfg : Config) (promised : Int) (hs : List Header) (st : Stream) :
    wp (Stream.receivePushPromiseInBand cfg promised hs) (fun r _ => PushRet cfg promised hs st.sid r)
      (fun _ _ => True) st :=
  wp_mono (receivePushPromiseInBand_spec cfg promised hs st) (fun _ _ h => h.2) fun _ _ _ => trivial

theorem sgood_remotelyPushed (hs : List Header) (st : Stream) : SGood NoFrames (Stream.remotelyPushed hs) st := by
  unfold SGood Stream.remotelyPushed
  wps
  apply wp_processInput_SE _ _ (.inl (by decide))
  intro evs sh hstep hni
  wps
  exact ⟨hni, rfl⟩

theorem sgood_resetStream (code : Int) (st : Stream) :
    SGood (fun fs => ∃ sid, fs = [Frame.rstStream sid code]) (Stream.resetStream code) st := by
  unfold SGood Stream.resetStream
  wps
  apply wp_processInput_SE _ _ (.inl (by decide))
  intro evs sh hstep hni
  wps
  exact ⟨hni, _, rfl⟩

theorem sgood_receiveWindowUpdate (incr : Int) (st : Stream) :
    SGood (fun a => FramesOk a.1) (Stream.receiveWindowUpdate incr) st := by
  unfold SGood Stream.receiveWindowUpdate
  wps
  apply wp_processInput_SE _ _ (.inl (by decide))
  intro evs sh hstep hni1
  wps
  split
  · exact ⟨hni1, framesOk_nil⟩
  · cases hg : guard_increment_window (st.withShape sh).outWin incr with
    | ok w => wps; exact ⟨hni1, framesOk_nil⟩
    | error e =>
      rw [giw_err _ _ _ hg]
      simp only
      rw [if_pos (by decide)]
      wps
      refine wp_mono (sgood_resetStream ErrorCodes.FLOW_CONTROL_ERROR (st.withShape sh)) ?_ (fun _ _ h => h)
      rintro _ s' ⟨h, _, rfl⟩; wps; exact ⟨h, framesOk_one ⟨by decide, by decide⟩⟩

theorem sgood_streamReset (code : Int) (st : Stream) : SGood NoFrames (Stream.streamReset code) st := by
  unfold SGood Stream.streamReset
  wps
  apply wp_processInput_SE _ _ (.inl (by decide))
  intro evs sh hstep hni
  wps
  split <;> exact ⟨hni, rfl⟩

theorem sgood_receiveAltSvc (origin field : Bytes) (st : Stream) (hni : st.sm.state ≠ .IDLE) :
    SGood NoFrames (Stream.receiveAltSvc origin field) st := by
  unfold SGood Stream.receiveAltSvc
  wps
  split
  · exact ⟨hni, rfl⟩
  · apply wp_processInput_SE _ _ (.inr hni)
    intro evs sh hstep hni1
    wps
    split
    · wps; exact ⟨hni1, rfl⟩
    · -- the first event the rows report for ALTSVC is AlternativeServiceAvailable
      cases firstEv_of_row (ev := .AlternativeServiceAvailable) (by cases st.sm.sh.state <;> rfl) hstep
      rw [if_neg (by decide)]
      wps; exact ⟨hni1, rfl⟩

theorem continuation_refused (st : Stream) : wp (processInput .RECV_CONTINUATION) (fun _ _ => False) SE st :=
  wp_processInput_SE _ _ (.inl (by decide)) fun _ _ hstep _ =>
    -- the table has no row for CONTINUATION
    Bool.noConfusion (step_res_ok (p := ProcRes.refused) (by cases st.sm.sh.state <;> rfl) hstep)

/-- a CONTINUATION frame outside a header block: `receive_continuation` always raises -/
theorem continuation_raises (st : Stream) (hni : st.sm.state ≠ .IDLE) :
    wp (processInput .RECV_CONTINUATION) (fun _ _ => False) SE st :=
  continuation_refused st

end H2
