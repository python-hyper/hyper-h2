/-
  Well-formedness of the Settings objects (per-key deques): `SettingsOk` (the two keys the library reads with `[...]`
  have a current value; every stored value passed `_validate_setting`) and `LS32` (every stored value fits the 32 bits
  of a SETTINGS frame), what `update` / `acknowledge` keep of them (`Settings.update_rule`, `Settings.all_append`,
  `Settings.all_acknowledge`: one walk for both), what `acknowledge` reports (`acknowledge_changes`, `findChange_mem`),
  and the ranges `_validate_setting` grants the readers (`validB_frame`, `validB_iws`, `SettingsOk.initialWindowSize`,
  `SettingsOk.enablePush`).
-/
import H2.Proofs.RecvStream
namespace H2
open H2.Gen H2.Conn

def validB (k : Int) (x : Option Int) : Bool :=
  match x with
  | none => true
  | some v => match validate_setting k v with
    | .ok c => c == 0
    | _ => false

def headVal (l : List (Option Int)) : Option Int :=
  match l with
  | some v :: _ => some v
  | _ => none

/-- the keys whose current value the library reads with `[...]` (KeyError when missing) -/
def mustHave (k : Int) : Bool := k == (SettingCodes.INITIAL_WINDOW_SIZE : Nat) || k == (SettingCodes.ENABLE_PUSH : Nat)

/-- one key's deque: non-empty, pending values never `None`, every stored value passed `_validate_setting`,
    and a current value for the keys that must have one -/
def entryOk (e : Int × List (Option Int)) : Bool :=
  !e.2.isEmpty && e.2.tail.all (·.isSome) && e.2.all (validB e.1) && (!mustHave e.1 || (headVal e.2).isSome)

def hasKey (s : Settings) (k : Nat) : Bool := s.any fun e => e.1 == (k : Int)

def SettingsOk (s : Settings) : Prop :=
  hasKey s SettingCodes.INITIAL_WINDOW_SIZE = true ∧ hasKey s SettingCodes.ENABLE_PUSH = true ∧ s.all entryOk = true

theorem entryOk_iff (k : Int) (l : List (Option Int)) : entryOk (k, l) = true ↔
    l ≠ [] ∧ (∀ x ∈ l.tail, x.isSome = true) ∧ (∀ x ∈ l, validB k x = true) ∧
      (mustHave k = true → (headVal l).isSome = true) := by
  simp only [entryOk, Bool.and_eq_true, Bool.or_eq_true, List.all_eq_true, List.isEmpty_eq_false_iff, and_assoc,
    Bool.not_eq_eq_eq_not, Bool.not_true]
  cases mustHave k <;> simp

theorem entryOk_of_mem {s : Settings} (h : s.all entryOk = true) {k : Int} {l : List (Option Int)} (hl : (k, l) ∈ s) :
    l ≠ [] ∧ (∀ x ∈ l.tail, x.isSome = true) ∧ (∀ x ∈ l, validB k x = true) ∧
      (mustHave k = true → (headVal l).isSome = true) :=
  (entryOk_iff k l).mp (List.all_eq_true.mp h _ hl)

theorem validate_setting_ok (k v : Int) : ∃ c, validate_setting k v = .ok c ∧ 0 ≤ c ∧ c ≤ 3 := by
  rw [validate_setting_eq]
  refine ⟨_, rfl, ?_⟩
  repeat' split
  all_goals decide

theorem settingsOk_init_cl : SettingsOk (Settings.ofInit client_local_settings) := by unfold SettingsOk; decide
theorem settingsOk_init_cr : SettingsOk (Settings.ofInit client_remote_settings) := by unfold SettingsOk; decide
theorem settingsOk_init_sl : SettingsOk (Settings.ofInit server_local_settings) := by unfold SettingsOk; decide
theorem settingsOk_init_sr : SettingsOk (Settings.ofInit server_remote_settings) := by unfold SettingsOk; decide

theorem getItem?_nil (k : Int) : Settings.getItem? [] k = none := rfl

theorem getItem?_cons (a : Int) (l : List (Option Int)) (t : Settings) (k : Int) :
    Settings.getItem? ((a, l) :: t) k = if k = a then headVal l else Settings.getItem? t k := by
  unfold Settings.getItem?
  rw [lookup_cons_if]
  by_cases h : k = a
  · rw [if_pos h, if_pos h]
    rcases l with _ | ⟨_ | _, _⟩ <;> rfl
  · rw [if_neg h, if_neg h]

/-- `getItem?` reads the deque of the first entry under the key -/
theorem getItem?_eq_headVal (s : Settings) (k : Int) :
    (Settings.getItem? s k = none ∧ (s.any fun e => e.1 == k) = false) ∨
    ∃ l, (k, l) ∈ s ∧ Settings.getItem? s k = headVal l := by
  rw [any_key_lookup]
  unfold Settings.getItem?
  cases hl : s.lookup k with
  | none => exact .inl ⟨rfl, rfl⟩
  | some l => exact .inr ⟨l, lookup_mem s k l hl, by rcases l with _ | ⟨_ | _, _⟩ <;> rfl⟩

theorem getItem?_of_ok (s : Settings) (k : Int) (hm : mustHave k = true) (hk : (s.any fun e => e.1 == k) = true)
    (h : s.all entryOk = true) : ∃ v, Settings.getItem? s k = some v := by
  rcases getItem?_eq_headVal s k with ⟨_, hn⟩ | ⟨l, hl, he⟩
  · rw [hn] at hk; cases hk
  · rw [he]; exact Option.isSome_iff_exists.mp ((entryOk_of_mem h hl).2.2.2 hm)

theorem headVal_mem {l : List (Option Int)} {v : Int} (h : headVal l = some v) : some v ∈ l := by
  rcases l with _ | ⟨_ | x, _⟩ <;> cases h
  exact List.mem_cons_self ..

theorem getItem?_valid (s : Settings) (k v : Int) (h : s.all entryOk = true) (hg : Settings.getItem? s k = some v) :
    validB k (some v) = true := by
  rcases getItem?_eq_headVal s k with ⟨hn, _⟩ | ⟨l, hl, he⟩
  · rw [hn] at hg; cases hg
  · exact (entryOk_of_mem h hl).2.2.1 _ (headVal_mem (he ▸ hg))

theorem headVal_append (l : List (Option Int)) (x : Option Int) (h : l ≠ []) : headVal (l ++ [x]) = headVal l := by
  cases l with
  | nil => contradiction
  | cons a t => cases a <;> rfl

theorem entryOk_grow (a v : Int) (l : List (Option Int)) (h : entryOk (a, l) = true) (hv : validB a (some v) = true) :
    entryOk (a, l ++ [some v]) = true := by
  obtain ⟨h1, h2, h3, h4⟩ := (entryOk_iff a l).mp h
  refine (entryOk_iff a _).mpr ⟨by simp, ?_, List.forall_mem_append.mpr ⟨h3, List.forall_mem_singleton.mpr hv⟩, ?_⟩
  · rw [List.tail_append_of_ne_nil h1]
    exact List.forall_mem_append.mpr ⟨h2, List.forall_mem_singleton.mpr rfl⟩
  · rw [headVal_append l _ h1]; exact h4

theorem hasKey_append (s : Settings) (k v : Int) (j : Nat) (h : hasKey s j = true) :
    hasKey (Settings.append s k v) j = true := by
  unfold hasKey Settings.append at *
  split
  · rw [List.any_map]
    rw [List.any_eq_true] at h ⊢
    obtain ⟨e, he, hj⟩ := h
    refine ⟨e, he, ?_⟩
    simp only [Function.comp]
    split <;> exact hj
  · simp [List.any_append, h]

/-- "every entry (key, deque) satisfies `p`" survives `append` if it survives growing the key's deque and holds of the
    deque a new key starts with -/
theorem Settings.all_append {p : Int × List (Option Int) → Bool} (s : Settings) (k v : Int) (h : s.all p = true)
    (hgrow : ∀ l, (k, l) ∈ s → p (k, l ++ [some v]) = true)
    (hnew : (s.any fun e => e.1 == k) = false → p (k, [none, some v]) = true) :
    (Settings.append s k v).all p = true := by
  unfold Settings.append
  split
  · rw [List.all_map, List.all_eq_true]
    intro e he
    simp only [Function.comp]
    split
    · rename_i hk
      obtain ⟨a, l⟩ := e
      have hk' : a = k := by simpa using hk
      subst hk'
      exact hgrow l he
    · exact List.all_eq_true.mp h e he
  · rename_i hnot
    rw [List.all_append, h]
    simpa using hnew (Bool.eq_false_iff.mpr hnot)

theorem settingsOk_append (s : Settings) (k v : Int) (h : SettingsOk s) (hv : validB k (some v) = true) :
    SettingsOk (Settings.append s k v) := by
  obtain ⟨h1, h2, h3⟩ := h
  refine ⟨hasKey_append _ _ _ _ h1, hasKey_append _ _ _ _ h2, Settings.all_append s k v h3
    (fun l hl => entryOk_grow _ _ _ (List.all_eq_true.mp h3 _ hl) hv) (fun hnot => ?_)⟩
  -- a key that was missing is not one of the two that must be present
  have hm : mustHave k = false := by
    apply Bool.eq_false_iff.mpr
    intro hm
    rcases (Bool.or_eq_true _ _).mp hm with hk | hk <;> (have hk := eq_of_beq hk; subst hk)
    · exact Bool.eq_false_iff.mp hnot h1
    · exact Bool.eq_false_iff.mp hnot h2
  have hn : validB k none = true := rfl
  simp [entryOk, hv, hm, hn]

/-- `Settings.__setitem__`: the value passes `_validate_setting` and is appended, or the refusal is
    InvalidSettingsValueError with a PROTOCOL_ERROR / FLOW_CONTROL_ERROR code -/
theorem setItem_cases (s : Settings) (k v : Int) :
    (validate_setting k v = .ok 0 ∧ Settings.setItem s k v = .ok (Settings.append s k v)) ∨
    ∃ e, Settings.setItem s k v = .error e ∧ Plain e := by
  unfold Settings.setItem
  obtain ⟨c, hc, h0, h3⟩ := validate_setting_ok k v
  rw [hc]
  by_cases hc0 : c = 0
  · subst hc0; exact .inl ⟨rfl, rfl⟩
  · exact .inr ⟨_, if_pos hc0, ⟨by decide, c, rfl, h0, by omega⟩, rfl⟩

/-- `Settings.update` appends the values of the list one by one, each after it passed `_validate_setting`, and stops at
    the first refusal: what survives such an `append` survives `update`, and the only failure is that refusal -/
theorem Settings.update_rule {P : Settings → Prop} (items : List (Int × Int)) (s : Settings) (h : P s)
    (hstep : ∀ s kv, kv ∈ items → validate_setting kv.1 kv.2 = .ok 0 → P s → P (Settings.append s kv.1 kv.2)) :
    P (Settings.update s items).2 ∧ ∀ e, (Settings.update s items).1 = .error e → Plain e := by
  induction items generalizing s with
  | nil => exact ⟨h, nofun⟩
  | cons kv rest ih =>
    unfold Settings.update
    obtain ⟨hv, hs⟩ | ⟨e, hs, he⟩ := setItem_cases s kv.1 kv.2 <;> rw [hs]
    · exact ih _ (hstep s kv (List.mem_cons_self ..) hv h) fun s' x hx => hstep s' x (List.mem_cons_of_mem _ hx)
    · exact ⟨h, fun e' he' => by cases he'; exact he⟩

theorem update_spec (s : Settings) (items : List (Int × Int)) (h : SettingsOk s) :
    SettingsOk (Settings.update s items).2 ∧ ∀ e, (Settings.update s items).1 = .error e → Plain e :=
  Settings.update_rule items s h fun s kv _ hv hs => settingsOk_append s _ _ hs (by simp only [validB, hv]; rfl)

def popEntry (e : Int × List (Option Int)) : Int × List (Option Int) :=
  match e.2 with
  | _ :: rest@(_ :: _) => (e.1, rest)
  | _ => e

theorem acknowledge_snd (s : Settings) : (Settings.acknowledge s).2 = s.map popEntry := rfl

theorem popEntry_fst (e : Int × List (Option Int)) : (popEntry e).1 = e.1 := by
  unfold popEntry; split <;> rfl

theorem popEntry_ok (e : Int × List (Option Int)) (h : entryOk e = true) : entryOk (popEntry e) = true := by
  obtain ⟨k, l⟩ := e
  unfold popEntry
  split
  · rename_i x y r heq
    simp only at heq
    subst heq
    obtain ⟨_, h2, h3, _⟩ := (entryOk_iff k _).mp h
    -- the value that becomes current was pending, so it is not `None`
    obtain ⟨v, rfl⟩ := Option.isSome_iff_exists.mp (h2 y (List.mem_cons_self ..))
    exact (entryOk_iff k _).mpr ⟨nofun, fun z hz => h2 z (List.mem_cons_of_mem _ hz),
      fun z hz => h3 z (List.mem_cons_of_mem _ hz), fun _ => rfl⟩
  · exact h

theorem Settings.all_acknowledge {p : Int × List (Option Int) → Bool} (s : Settings)
    (hpop : ∀ e ∈ s, p (popEntry e) = true) : (Settings.acknowledge s).2.all p = true := by
  rw [acknowledge_snd, List.all_map, List.all_eq_true]
  exact hpop

theorem hasKey_acknowledge (s : Settings) (j : Nat) (h : hasKey s j = true) : hasKey (Settings.acknowledge s).2 j = true := by
  unfold hasKey at *
  rw [acknowledge_snd, List.any_map]
  simpa [Function.comp, popEntry_fst] using h

theorem acknowledge_ok (s : Settings) (h : SettingsOk s) : SettingsOk (Settings.acknowledge s).2 :=
  ⟨hasKey_acknowledge s _ h.1, hasKey_acknowledge s _ h.2.1,
    Settings.all_acknowledge s fun e he => popEntry_ok e (List.all_eq_true.mp h.2.2 e he)⟩

/-! ### every stored value fits a SETTINGS frame -/

def optU32 (o : Option Int) : Bool :=
  match o with
  | none => true
  | some v => decide (0 ≤ v) && decide (v ≤ 4294967295)

/-- every stored value (current or pending) fits the 32 bits a SETTINGS frame gives it; the local settings keep this
    (`update_settings` checks the range before it stores anything), so the frame `initiate_connection` builds from them
    can always be serialised -/
def LS32 (s : Settings) : Prop := (s.all fun e => e.2.all optU32) = true

theorem ls32_init_cl : LS32 (Settings.ofInit client_local_settings) := by unfold LS32; decide
theorem ls32_init_sl : LS32 (Settings.ofInit server_local_settings) := by unfold LS32; decide

theorem ls32_append (s : Settings) (k v : Int) (h : LS32 s) (hv : 0 ≤ v ∧ v ≤ 4294967295) : LS32 (Settings.append s k v) := by
  have hv' : optU32 (some v) = true := by simp [optU32, hv.1, hv.2]
  refine Settings.all_append s k v h (fun l hl => ?_) (fun _ => by simp [optU32, hv.1, hv.2])
  have := List.all_eq_true.mp h _ hl
  simp only [List.all_append, List.all_cons, List.all_nil, Bool.and_true, Bool.and_eq_true]
  exact ⟨this, hv'⟩

theorem ls32_update (s : Settings) (items : List (Int × Int)) (h : LS32 s)
    (hi : ∀ kv ∈ items, 0 ≤ kv.2 ∧ kv.2 ≤ 4294967295) : LS32 (Settings.update s items).2 :=
  (Settings.update_rule items s h fun s kv hkv _ hs => ls32_append s _ _ hs (hi kv hkv)).1

theorem ls32_items (s : Settings) (h : LS32 s) : ∀ kv ∈ Settings.items s, 0 ≤ kv.2 ∧ kv.2 < 4294967296 := by
  intro kv hkv
  unfold Settings.items at hkv
  simp only [List.mem_filterMap] at hkv
  obtain ⟨e, he, hm⟩ := hkv
  unfold LS32 at h
  rw [List.all_eq_true] at h
  have := h e he
  split at hm
  · rename_i v rest heq
    injection hm with hm
    subst hm
    rw [heq] at this
    simp only [List.all_cons, Bool.and_eq_true, optU32, decide_eq_true_eq] at this
    exact ⟨this.1.1, by have := this.1.2; show v < 4294967296; omega⟩
  · cases hm

theorem ls32_acknowledge (s : Settings) (h : LS32 s) : LS32 (Settings.acknowledge s).2 := by
  refine Settings.all_acknowledge s fun e he => ?_
  have := List.all_eq_true.mp h e he
  unfold popEntry
  split
  · rename_i x y r heq
    rw [heq] at this
    simp only [List.all_cons, Bool.and_eq_true] at this ⊢
    exact this.2
  · exact this

theorem mem_acknowledge (s : Settings) (k : Int) (old : Option Int) (new : Int) :
    (k, old, new) ∈ (Settings.acknowledge s).1 ↔ ∃ rest, (k, old :: some new :: rest) ∈ s := by
  simp only [Settings.acknowledge, List.mem_filterMap]
  constructor
  · rintro ⟨e, he, hm⟩
    obtain ⟨a, l⟩ := e
    simp only at hm
    split at hm
    · rename_i xl o n r
      cases hm
      exact ⟨r, he⟩
    · cases hm
  · rintro ⟨rest, hm⟩
    exact ⟨_, hm, rfl⟩

theorem acknowledge_changes (s : Settings) (h : s.all entryOk = true) (k : Int) (old : Option Int) (new : Int)
    (hm : (k, old, new) ∈ (Settings.acknowledge s).1) :
    validB k (some new) = true ∧ (mustHave k = true → old.isSome = true) := by
  obtain ⟨rest, hl⟩ := (mem_acknowledge s k old new).mp hm
  obtain ⟨_, _, h3, h4⟩ := entryOk_of_mem h hl
  refine ⟨h3 _ (List.mem_cons_of_mem _ (List.mem_cons_self ..)), fun hmh => ?_⟩
  cases old with
  | none => exact h4 hmh
  | some _ => rfl

theorem findChange_mem (changes : List (Int × Option Int × Int)) (k : Nat) (old : Option Int) (new : Int)
    (h : findChange changes k = some (old, new)) : ((k : Int), old, new) ∈ changes := by
  unfold findChange at h
  cases hf : changes.find? (fun e => e.1 == (k : Int)) with
  | none => rw [hf] at h; simp at h
  | some e =>
    rw [hf] at h
    simp only [Option.map_some, Option.some.injEq] at h
    have hmem := List.mem_of_find?_eq_some hf
    have hk := List.find?_some hf
    obtain ⟨a, b⟩ := e
    simp only at h hk
    have : a = (k : Int) := by simpa using hk
    subst this; subst h
    exact hmem

theorem validB_frame (v : Int) (h : validB (SettingCodes.MAX_FRAME_SIZE : Nat) (some v) = true) : 16384 ≤ v ∧ v ≤ 16777215 := by
  have hk : ((SettingCodes.MAX_FRAME_SIZE : Nat) : Int) = 5 := rfl
  rw [hk, validB, validate_setting_maxFrame] at h
  exact Decidable.by_contra fun hn => by rw [if_neg hn] at h; cases h

theorem validB_iws (v : Int) (h : validB (SettingCodes.INITIAL_WINDOW_SIZE : Nat) (some v) = true) : 0 ≤ v ∧ v ≤ 2147483647 := by
  have hk : ((SettingCodes.INITIAL_WINDOW_SIZE : Nat) : Int) = 4 := rfl
  rw [hk, validB, validate_setting_iws] at h
  exact Decidable.by_contra fun hn => by rw [if_neg hn] at h; cases h

/-! ### what the readers of a well-formed settings object get -/

theorem SettingsOk.entries {s : Settings} (h : SettingsOk s) : s.all entryOk = true := h.2.2

theorem SettingsOk.initialWindowSize {s : Settings} (h : SettingsOk s) :
    ∃ v, s.initialWindowSize = some v ∧ 0 ≤ v ∧ v ≤ 2147483647 := by
  obtain ⟨v, hv⟩ := getItem?_of_ok s SettingCodes.INITIAL_WINDOW_SIZE (by decide) h.1 h.entries
  exact ⟨v, hv, validB_iws v (getItem?_valid _ _ _ h.entries hv)⟩

theorem SettingsOk.enablePush {s : Settings} (h : SettingsOk s) : ∃ v, s.enablePush = some v :=
  getItem?_of_ok s SettingCodes.ENABLE_PUSH (by decide) h.2.1 h.entries

end H2
