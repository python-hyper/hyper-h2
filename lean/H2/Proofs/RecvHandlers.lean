/-
  Receive path, connection level: every frame handler keeps the connection invariant WF, emits only small,
  serialisable frames and raises only protocol errors.
-/
import H2.Proofs.RecvWF
namespace H2
open H2.Gen H2.Conn

/-- what a frame handler promises when it returns: the invariant, and frames `_receive_frame` can serialise -/
structure HQ (fe : FE) (c' : Conn) : Prop where
  wf : WF c'
  frames : FramesOk fe.1

theorem goodExc_lookupExc (c : Conn) (sid : Int) : GoodExc (lookupExc c sid) := by
  unfold lookupExc
  rw [apply_ite GoodExc]
  exact ite_intro (fun _ => goodExc_mkExc .NoSuchStreamError (some sid) (by decide)) fun _ =>
    goodExc_streamClosed sid []

theorem wp_getStreamById_good {Q : Unit → Conn → Prop} {E : Exc → Conn → Prop} (sid : Int) (c : Conn)
    (hq : hasStream c sid = true → Q () c) (he : ∀ e, GoodExc e → E e c) : wp (getStreamById sid) Q E c := by
  rw [wp_getStreamById_lookup]
  exact ite_intro hq fun _ => he _ (goodExc_lookupExc c sid)

/-- `try: self._get_stream_by_id(sid)` / `except NoSuchStreamError`; the StreamClosedError of a stream that was closed
    and forgotten goes on -/
theorem wp_findStream_good {Q : Bool → Conn → Prop} {E : Exc → Conn → Prop} (sid : Int) (c : Conn)
    (h1 : hasStream c sid = true → Q true c) (h0 : Q false c) (he : ∀ e, GoodExc e → E e c) :
    wp (tryCatch (do getStreamById sid; pure true) (fun e => e.isInstance .NoSuchStreamError) (fun _ => pure false))
      Q E c := by
  wps
  apply wp_getStreamById_good _ _ h1
  intro e hg
  split
  · exact h0
  · exact he e hg

theorem wp_onStream_live {α} {Q : α → Conn → Prop} {E : Exc → Conn → Prop} (R : α → Prop) (sid : Int) (m : M Stream α)
    (c : Conn) (hl : Live c) (hm : ∀ st, st.sm.state ≠ .IDLE → SGood R m st)
    (hq : ∀ a c', R a → Live c' → Q a c') (he : ∀ e c', CE e c' → E e c') :
    wp (getStreamById sid) (fun _ c' => wp (withStream sid m) Q E c') E c :=
  wp_getStreamById_good sid c
    (fun hex => wp_withStream_live R sid m c hl hex hm (fun a _ => hq a _) (fun e _ => he e _))
    (fun e hg => he e c (CE_wf hg hl.wf))

theorem notIdle_setStream' {ss : List (Int × Stream)} {sid : Int} {st : Stream} (h : StreamsNotIdle ss)
    (hs : st.sm.state ≠ .IDLE) : StreamsNotIdle (ss.map fun e => if e.1 == sid then (sid, st) else e) :=
  notIdle_replace (notIdleExcept_of sid h) hs

theorem caught_of_streamClosed {e : Exc} (h : e.isInstance .StreamClosedError = true) : isCaught e = true := by
  unfold isCaught
  cases e with
  | h2 cls code sid evs => simp only [Exc.isInstance] at h ⊢; revert h; cases cls <;> decide
  | py k => simp [Exc.isInstance] at h

theorem caught_of_pred {e : Exc}
    (h : (e.isInstance .StreamClosedError || e.isInstance .StreamIDTooLowError) = true) : isCaught e = true := by
  rw [Bool.or_eq_true] at h
  rcases h with h | h
  · exact caught_of_streamClosed h
  · unfold isCaught; rw [h]; simp

/-- StreamClosedError is one of the exceptions that are swallowed (`isCaught`), so its `except` clause finds `WF` -/
theorem CE.exceptStreamClosed {e : Exc} {c' : Conn} {A : Prop} (hce : CE e c')
    (h : e.isInstance .StreamClosedError = true → WF c' → A) :
    if e.isInstance .StreamClosedError = true then A else CE e c' :=
  ite_intro (fun hc => h hc (hce.wf (caught_of_streamClosed hc))) fun _ => hce

theorem caught_of_noSuch {e : Exc} (h : e.isInstance .NoSuchStreamError = true) : isCaught e = true := by
  unfold isCaught; rw [h]; rfl

theorem hspec_ping (ack : Bool) (payload : Bytes) (c : Conn) (hwf : WF c) (hp : payload.length = 8) :
    wp (receivePingFrame ack payload) HQ CE c := by
  unfold receivePingFrame
  wps
  apply wp_connInput_CE _ _ hwf (by unfold notGoaway; decide)
  intro t hl
  split
  · wps; exact ⟨hl.wf, framesOk_nil⟩
  · wps; exact ⟨hl.wf, framesOk_one hp⟩

theorem hspec_priority (sid : Int) (p : Prio) (c : Conn) (hwf : WF c) :
    wp (receivePriorityFrame sid p) HQ CE c := by
  unfold receivePriorityFrame
  wps
  apply wp_connInput_CE _ _ hwf (by unfold notGoaway; decide)
  intro t hl
  split
  · exact CE_plain plain_pErr hl.toWFb
  · wps; exact ⟨hl.wf, framesOk_nil⟩

theorem hspec_goaway (last code : Int) (extra : Bytes) (c : Conn) (hwf : WF c) :
    wp (receiveGoawayFrame last code extra) HQ CE c := by
  unfold receiveGoawayFrame clearOutboundDataBuffer
  wps
  rw [wp_connInput_ok _ _ _ (conn_recvGoaway_closes _)]
  exact ⟨wf_of_closed hwf.wfb.congr rfl, framesOk_nil⟩

theorem hspec_windowUpdate (sid incr : Int) (c : Conn) (hwf : WF c) :
    wp (receiveWindowUpdateFrame sid incr) HQ CE c := by
  unfold receiveWindowUpdateFrame
  wps
  apply wp_connInput_CE _ _ hwf (by unfold notGoaway; decide)
  intro t hl
  split
  · wps
    apply wp_onStream_live _ _ _ _ hl (fun st _ => sgood_receiveWindowUpdate incr st)
    · intro a c' hr hl'; exact ⟨hl'.wf, hr⟩
    · intro e c' hce; exact hce.exceptStreamClosed fun _ hwf' => ⟨hwf', framesOk_nil⟩
  · wps
    cases hg : guard_increment_window c.outWin incr with
    | ok w => wps; exact ⟨hl.wf.congr, framesOk_nil⟩
    | error e => exact CE_plain (plain_giw hg) hl.toWFb

/-- RST_STREAM and ALTSVC: `try: stream = self._get_stream_by_id(sid)` / `except NoSuchStreamError: return [], []`, then
    a stream method that hands back no frames -/
theorem hspec_ifStream (sid : Int) (m : M Stream FE) (c : Conn) (hl : Live c)
    (hm : ∀ st, st.sm.state ≠ .IDLE → SGood NoFrames m st) :
    wp (do
        let found ← tryCatch (do getStreamById sid; pure true) (fun e => e.isInstance .NoSuchStreamError)
          (fun _ => pure false)
        if found then withStream sid m else pure ([], [])) HQ CE c := by
  rw [wp_bind]
  apply wp_findStream_good
  · intro hex
    rw [if_pos rfl]
    apply wp_withStream_live _ _ _ _ hl hex hm
    · intro a st' hr hl'; exact ⟨hl'.wf, framesOk_of_noFrames hr⟩
    · intro e st' hce; exact hce
  · exact ⟨hl.wf, framesOk_nil⟩
  · intro e he; exact CE_wf he hl.wf

theorem hspec_rstStream (sid code : Int) (c : Conn) (hwf : WF c) :
    wp (receiveRstStreamFrame sid code) HQ CE c := by
  unfold receiveRstStreamFrame
  wps
  apply wp_connInput_CE _ _ hwf (by unfold notGoaway; decide)
  intro t hl
  exact hspec_ifStream sid _ _ hl fun st _ => sgood_streamReset code st

theorem hspec_altsvc (sid : Int) (origin field : Bytes) (c : Conn) (hwf : WF c) :
    wp (receiveAltSvcFrame sid origin field) HQ CE c := by
  unfold receiveAltSvcFrame
  wps
  apply wp_connInput_CE _ _ hwf (by unfold notGoaway; decide)
  intro t hl
  split
  · exact hspec_ifStream sid _ _ hl (sgood_receiveAltSvc origin field)
  · wps
    repeat' split
    all_goals exact ⟨hl.wf, framesOk_nil⟩

theorem hspec_nakedContinuation (sid : Int) (c : Conn) (hwf : WF c) :
    wp (receiveNakedContinuation sid) HQ CE c := by
  unfold receiveNakedContinuation
  wps
  apply wp_getStreamById_good
  · intro hex
    wps
    exact wp_withStream_wf (fun _ => False) sid _ c hwf.wfb (fun hc => notIdleExcept_of sid (hwf.2 hc)) hex
      (fun st _ => wp_mono (continuation_refused st) (fun _ _ h => h.elim) fun _ _ h => h) (fun _ _ h => h.elim)
      (fun _ _ h => h)
  · intro e he; exact CE_wf he hwf

theorem wp_onConnWM_good {Q : Option Int → Conn → Prop} {E : Exc → Conn → Prop} (f : WindowManager → WRes) (c : Conn)
    (hf : ∀ e w', f c.inWM = (.error e, w') → e = .h2 .FlowControlError)
    (hq : ∀ v w, Q v { c with inWM := w }) (he : ∀ e w, Plain e → E e { c with inWM := w }) :
    wp (onConnWM f) Q E c := by
  rw [wp_onConnWM]
  exact wres_good (f c.inWM) (fun w => { c with inWM := w }) hf hq he

theorem goodExc_code {cls : ExcClass} {code : Option Int} {sid : Option Int} {evs : List Event}
    (h : GoodExc (.h2 cls code sid evs)) : 0 ≤ code.getD 0 ∧ code.getD 0 < 4294967296 := by
  obtain ⟨_, k, hk, h0, h1⟩ := h
  subst hk; exact ⟨h0, h1⟩

theorem framesOk_closedDataReply (incr : Option Int) {e : Exc} (hg : GoodExc e) :
    FramesOk (closedDataReply incr e).1 := by
  cases e with
  | py k => exact hg.elim
  | h2 cls code esid evs =>
    refine framesOk_append ?_ (framesOk_one (goodExc_code hg))
    cases incr with
    | none => exact framesOk_nil
    | some n =>
      dsimp only
      split
      · exact framesOk_one (f := Frame.windowUpdate 0 n) trivial
      · exact framesOk_nil

theorem hspec_data (sid : Int) (payload : Bytes) (es : Bool) (fcl : Int) (c : Conn) (hwf : WF c) :
    wp (receiveDataFrame sid payload es fcl) HQ CE c := by
  unfold receiveDataFrame
  wps
  apply wp_connInput_CE _ _ hwf (by unfold notGoaway; decide)
  intro t hl
  wps
  apply wp_onConnWM_good
  · intro e w' h; exact wm_consumed_err _ _ _ _ h
  · intro v w
    have hl2 : Live { c with cstate := t, inWM := w } := .of_wf hl.wf.congr hl.notClosed
    rw [wp_tryCatch, wp_bind]
    apply wp_onStream_live _ _ _ _ hl2 (fun st _ => sgood_receiveData payload es fcl st)
    · intro a c' hr hl'; exact ⟨hl'.wf, framesOk_of_noFrames hr.noFrames⟩
    · intro e c' hce
      refine hce.exceptStreamClosed fun _ hwf' => ?_
      -- the `except StreamClosedError` clause is `handleDataOnClosedStream`, inline
      obtain ⟨v2, w2, hpb⟩ := wm_process_ok c'.inWM fcl
      show wp (handleDataOnClosedStream fcl e) HQ CE c'
      rw [wp_handleDataOnClosedStream, hpb]
      exact ⟨hwf'.congr, framesOk_closedDataReply v2 hce.good⟩
  · intro e w hp; exact CE_plain hp hl.toWFb.congr

end H2
