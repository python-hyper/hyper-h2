/-
  What the body round trips `parse_body (serialize_body f) = f` share (C01_wire_* for the frames as
  `_prepare_for_sending` emits them, C23_roundtrip for PRIORITY): Python's slice between a prefix and the padding, the
  flag byte read back bit by bit, and the five priority bytes of PRIORITY and of HEADERS with the PRIORITY flag.
-/
import H2.Proofs.Bytes
namespace H2

theorem pySlice_mid (a b z : Bytes) :
    pySlice (a ++ b ++ z) a.length (((a ++ b ++ z).length : Int) - z.length) = b := by
  unfold pySlice
  have h1 : ¬ (((a ++ b ++ z).length : Int) - z.length < 0) := by simp only [List.length_append]; omega
  simp only [h1, if_false]
  have h2 : (((a ++ b ++ z).length : Int) - z.length).toNat = (a ++ b).length := by
    simp only [List.length_append]; omega
  rw [h2]
  have ht : (a ++ b ++ z).take (a ++ b).length = a ++ b := List.take_left' rfl
  rw [ht]
  exact List.drop_left' rfl

theorem pySlice_all (d : Bytes) : pySlice d 0 (d.length : Int) = d := by
  simpa using pySlice_mid [] d []

theorem zeros_length (n : Nat) : (zeros (n : Int)).length = n := by simp [zeros]

theorem hasBit_flags (es eh pd pr : Bool) :
    let fl := (if es then 1 else 0) + (if eh then 4 else 0) + (if pd then 8 else 0) + (if pr then 32 else 0)
    hasBit fl 1 = es ∧ hasBit fl 4 = eh ∧ hasBit fl 8 = pd ∧ hasBit fl 32 = pr := by
  cases es <;> cases eh <;> cases pd <;> cases pr <;> decide

/-- dependency and exclusive bit share one 32-bit word -/
theorem prio_word (dep : Nat) (excl : Bool) (hd : dep < 2147483648) :
    dep + (if excl then 2147483648 else 0) < 4294967296 ∧
    ((dep + (if excl then 2147483648 else 0) : Nat) : Int) % 2147483648 = dep ∧
    decide ((dep + (if excl then 2147483648 else 0)) / 2147483648 = 1) = excl := by
  cases excl <;> simp <;> omega

theorem prioBytes?_eq (w dep : Nat) (excl : Bool) (hw : w < 256) (hd : dep < 2147483648) :
    prioBytes? { weight := w, dependsOn := dep, exclusive := excl } =
      some (be32 (dep + (if excl then 2147483648 else 0)) ++ [UInt8.ofNat w]) := by
  have hc : ((dep : Int) + (if excl then 2147483648 else 0)) =
      ((dep + (if excl then 2147483648 else 0) : Nat) : Int) := by
    split <;> omega
  simp only [prioBytes?, hc, u32?_nat _ (prio_word dep excl hd).1, u8?_nat w hw, bind, Option.bind, pure]

end H2
