/-
  A small Hoare logic for the state+exception monad `M σ α` of the model.
  `Tri P m Q E`: from a state satisfying `P`, `m` either returns `a` in a state
  satisfying `Q a`, or raises `e` in a state satisfying `E e`.
  Kept for reference: the proofs of the development go through the weakest preconditions of Proofs/Wp
  (`tri_iff_wp` says how the two relate), and no proof uses a triple.
-/
import H2.Model.Step

namespace H2

def Tri {σ α : Type} (P : σ → Prop) (m : M σ α) (Q : α → σ → Prop) (E : Exc → σ → Prop) : Prop :=
  ∀ s, P s → match m s with
    | (.ok a, s') => Q a s'
    | (.error e, s') => E e s'

namespace Tri
variable {σ α β : Type} {P P' : σ → Prop} {Q Q' : α → σ → Prop} {E E' : Exc → σ → Prop}

theorem conseq {m : M σ α} (h : Tri P m Q E) (hp : ∀ s, P' s → P s) (hq : ∀ a s, Q a s → Q' a s)
    (he : ∀ e s, E e s → E' e s) : Tri P' m Q' E' := by
  intro s hs
  have := h s (hp s hs)
  split <;> rename_i heq <;> simp only [heq] at this
  · exact hq _ _ this
  · exact he _ _ this

theorem pre {m : M σ α} (h : Tri P m Q E) (hp : ∀ s, P' s → P s) : Tri P' m Q E :=
  conseq h hp (fun _ _ x => x) (fun _ _ x => x)

theorem post {m : M σ α} (h : Tri P m Q E) (hq : ∀ a s, Q a s → Q' a s) (he : ∀ e s, E e s → E' e s) : Tri P m Q' E' :=
  conseq h (fun _ x => x) hq he

theorem pure' (a : α) (h : ∀ s, P s → Q a s) : Tri P (pure a : M σ α) Q E := by
  intro s hs; exact h s hs

theorem raise' (e : Exc) (h : ∀ s, P s → E e s) : Tri P (raise e : M σ α) Q E := by
  intro s hs; exact h s hs

theorem bind' {m : M σ α} {k : α → M σ β} {R : α → σ → Prop} {Q : β → σ → Prop}
    (hm : Tri P m R E) (hk : ∀ a, Tri (R a) (k a) Q E) : Tri P (m >>= k) Q E := by
  intro s hs
  have h1 := hm s hs
  show match (M.bind m k) s with | (.ok a, s') => Q a s' | (.error e, s') => E e s'
  unfold M.bind
  cases hms : m s with
  | mk r s' =>
    cases r with
    | ok a => simp only [hms] at h1 ⊢; exact hk a s' h1
    | error e => simp only [hms] at h1 ⊢; exact h1

theorem getS' : Tri P (getS : M σ σ) (fun a s => a = s ∧ P s) E := by
  intro s hs; exact ⟨rfl, hs⟩

theorem modifyS' (f : σ → σ) {Q : Unit → σ → Prop} (h : ∀ s, P s → Q () (f s)) : Tri P (modifyS f) Q E := by
  intro s hs; exact h s hs

theorem setS' (t : σ) {Q : Unit → σ → Prop} (h : ∀ s, P s → Q () t) : Tri P (setS t) Q E := by
  intro s hs; exact h s hs

theorem liftExcept' (r : Except Exc α) (hok : ∀ a, r = .ok a → ∀ s, P s → Q a s)
    (herr : ∀ e, r = .error e → ∀ s, P s → E e s) : Tri P (liftExcept r : M σ α) Q E := by
  intro s hs
  cases r with
  | ok a => exact hok a rfl s hs
  | error e => exact herr e rfl s hs

theorem ite' {c : Prop} [Decidable c] {m1 m2 : M σ α}
    (h1 : c → Tri P m1 Q E) (h2 : ¬c → Tri P m2 Q E) : Tri P (if c then m1 else m2) Q E := by
  split
  · exact h1 ‹_›
  · exact h2 ‹_›

theorem tryCatch' {m : M σ α} {pred : Exc → Bool} {h : Exc → M σ α} {R : Exc → σ → Prop}
    (hm : Tri P m Q R) (hh : ∀ e, pred e = true → Tri (R e) (h e) Q E)
    (hpass : ∀ e s, pred e = false → R e s → E e s) : Tri P (tryCatch m pred h) Q E := by
  intro s hs
  have h1 := hm s hs
  unfold tryCatch
  cases hms : m s with
  | mk r s' =>
    cases r with
    | ok a => simp only [hms] at h1 ⊢; exact h1
    | error e =>
      simp only [hms] at h1 ⊢
      cases hp : pred e with
      | true => simp only [if_true]; exact hh e hp s' h1
      | false => simp only [Bool.false_eq_true, if_false]; exact hpass e s' hp h1

/-- a computation on a component -/
theorem zoom' {τ : Type} {get : σ → τ} {set : σ → τ → σ} {m : M τ α} {Pt : τ → Prop} {Qt : α → τ → Prop} {Et : Exc → τ → Prop}
    (hm : Tri Pt m Qt Et)
    (hp : ∀ s, P s → Pt (get s))
    (hq : ∀ s a t, P s → Qt a t → Q a (set s t))
    (he : ∀ s e t, P s → Et e t → E e (set s t)) : Tri P (zoom get set m) Q E := by
  intro s hs
  have h1 := hm (get s) (hp s hs)
  unfold zoom
  cases hms : m (get s) with
  | mk r t =>
    cases r with
    | ok a => simp only [hms] at h1 ⊢; exact hq s a t hs h1
    | error e => simp only [hms] at h1 ⊢; exact he s e t hs h1

end Tri

/-- frame property: `m` never changes `f` (on normal return or on raise) -/
def Frames {σ α τ : Type} (f : σ → τ) (m : M σ α) : Prop := ∀ s, f (m s).2 = f s

end H2
