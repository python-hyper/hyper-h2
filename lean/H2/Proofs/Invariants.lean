/-
  The invariants of the connection that are instances of the walk of Proofs/KeepsConn: for each, the predicate and why
  the building blocks that write what it reads keep it.  (The cap on the memory of closed streams is in Props/C27, the
  connection's outbound window in Props/C03, the stream table `SO` in Proofs/StreamsOk, `WF` for the calls that open
  no stream in Proofs/ApiWF.)
-/
import H2.Proofs.KeepsConn
import H2.Proofs.WinEq
namespace H2
open H2.Gen H2.Conn

/-! ### the frame buffer: no frame handler and no call touches it, only `receive_data`'s own loop does -/

abbrev PF (m : CM α) (c : Conn) : Prop := wp m (fun _ c' => c'.fb = c.fb) (fun _ c' => c'.fb = c.fb) c

/-- no building block writes the frame buffer -/
theorem prims_fb (v : FrameBuffer) : ApiPrims (fun c => c.fb = v) := {}

theorem pf_ping (a : Bool) (p : Bytes) (c : Conn) : PF (receivePingFrame a p) c := ((prims_fb _).pingFrame a p).run c rfl
theorem pf_goaway (l k : Int) (x : Bytes) (c : Conn) : PF (receiveGoawayFrame l k x) c :=
  ((prims_fb _).goawayFrame (fun _ h => h) l k x).run c rfl
theorem pf_rst (sid code : Int) (c : Conn) : PF (receiveRstStreamFrame sid code) c := ((prims_fb _).rstFrame sid code).run c rfl
theorem pf_altsvc (sid : Int) (o f : Bytes) (c : Conn) : PF (receiveAltSvcFrame sid o f) c :=
  ((prims_fb _).altsvcFrame sid o f).run c rfl
theorem pf_cont (sid : Int) (c : Conn) : PF (receiveNakedContinuation sid) c := ((prims_fb _).continuationFrame sid).run c rfl
theorem pf_data (sid : Int) (p : Bytes) (es : Bool) (fcl : Int) (c : Conn) : PF (receiveDataFrame sid p es fcl) c :=
  ((prims_fb _).dataFrame sid p es fcl (Keeps.onConnWM_of (fun _ _ h => h) _)).run c rfl
theorem pf_headers (sid : Int) (b : Bytes) (es : Bool) (pr : Option Prio) (c : Conn) : PF (receiveHeadersFrame sid b es pr) c :=
  ((prims_fb _).headersFrame sid b es pr).run c rfl
theorem pf_push (sid p : Int) (b : Bytes) (c : Conn) : PF (receivePushPromiseFrame sid p b) c :=
  ((prims_fb _).pushFrame sid p b).run c rfl

/-! ### output buffer, history of sent frames, frame buffer

  The frame handlers leave all three alone (they return the frames they want written; `_receive_frame` writes them).
  Needed where a handler is called outside `receive_data`: `initiate_upgrade_connection` hands the decoded
  HTTP2-Settings to `_receive_settings_frame`. -/

section
def Conn.k3 (c : Conn) : Bytes × List Frame × FrameBuffer := (c.out, c.sent, c.fb)

abbrev PK (m : CM α) (c : Conn) : Prop := wp m (fun _ c' => c'.k3 = c.k3) (fun _ c' => c'.k3 = c.k3) c

/-- no building block of the handlers writes any of the three (GOAWAY's emptying of the output buffer is not one) -/
theorem prims_k3 (v : Bytes × List Frame × FrameBuffer) : RecvPrims (fun c => c.k3 = v) := {}

variable {E : Exc → Conn → Prop}

theorem pk_openStreams {Q : Int → Conn → Prop} (r : Int) (c : Conn) (s0 : Bytes × List Frame × FrameBuffer) (h : c.k3 = s0)
    (hq : ∀ a c', c'.k3 = s0 → Q a c') : wp (openStreams r) Q E c :=
  hq _ _ (((prims_k3 s0).openStreams r).state c h)

theorem pk_decodeHeaders {Q : List Header → Conn → Prop} (b : Bytes) (c : Conn) (s0 : Bytes × List Frame × FrameBuffer) (h : c.k3 = s0)
    (hq : ∀ a c', c'.k3 = s0 → Q a c') (he : ∀ e c', c'.k3 = s0 → E e c') : wp (decodeHeaders b) Q E c :=
  ((prims_k3 s0).decodeHeaders b).cps c h hq he

theorem pk_putStream {Q : Unit → Conn → Prop} (sid : Int) (st : Stream) (c : Conn) (s0 : Bytes × List Frame × FrameBuffer) (h : c.k3 = s0)
    (hq : ∀ c', c'.k3 = s0 → Q () c') : wp (putStream sid st) Q E c :=
  hq _ ((Keeps.putStream_of (P := fun c => c.k3 = s0) (fun _ _ h => h) sid st).state c h)

theorem pk_ping (a : Bool) (p : Bytes) (c : Conn) : PK (receivePingFrame a p) c := ((prims_k3 _).pingFrame a p).run c rfl
theorem pk_priority (sid : Int) (p : Prio) (c : Conn) : PK (receivePriorityFrame sid p) c :=
  ((prims_k3 _).priorityFrame sid p).run c rfl
theorem pk_windowUpdate (sid incr : Int) (c : Conn) : PK (receiveWindowUpdateFrame sid incr) c :=
  ((prims_k3 _).windowUpdateFrame sid incr fun _ _ _ h => h).run c rfl
theorem pk_rst (sid code : Int) (c : Conn) : PK (receiveRstStreamFrame sid code) c := ((prims_k3 _).rstFrame sid code).run c rfl
theorem pk_altsvc (sid : Int) (o f : Bytes) (c : Conn) : PK (receiveAltSvcFrame sid o f) c :=
  ((prims_k3 _).altsvcFrame sid o f).run c rfl
theorem pk_cont (sid : Int) (c : Conn) : PK (receiveNakedContinuation sid) c := ((prims_k3 _).continuationFrame sid).run c rfl
theorem pk_data (sid : Int) (p : Bytes) (es : Bool) (fcl : Int) (c : Conn) : PK (receiveDataFrame sid p es fcl) c :=
  ((prims_k3 _).dataFrame sid p es fcl (Keeps.onConnWM_of (fun _ _ h => h) _)).run c rfl
theorem pk_settings (ack : Bool) (items : List (Int × Int)) (c : Conn) : PK (receiveSettingsFrame ack items) c :=
  ((prims_k3 _).settingsFrame ack items).run c rfl
end

/-! ### the connection's inbound window manager

  `current_window_size ≤ max_window_size ≤ 2^31-1` along every history: the window the library advertises to the peer
  at connection level never exceeds its maximum, and that never exceeds what a WINDOW_UPDATE may grant (C05's "never
  over-credits", for the connection, with no discipline assumed of the application).  The manager is only ever handed
  to `window_consumed` (with the length of a parsed frame, which is not negative), `process_bytes` and
  `window_opened`, and each keeps the two inequalities. -/

def WMI (w : WindowManager) : Prop := w.current_window_size ≤ w.max_window_size ∧ w.max_window_size ≤ 2147483647

def WI (c : Conn) : Prop := WMI c.inWM

theorem wmi_consumed (n : Int) (hn : 0 ≤ n) : ∀ w, WMI w → WMI (w.window_consumed n).2 := by
  intro w h
  unfold WMI at *
  simp only [WindowManager.window_consumed_eq]
  omega

theorem wmi_processed (n : Int) : ∀ w, WMI w → WMI (w.process_bytes n).2 := by
  intro w h
  unfold WMI at *
  obtain ⟨v, w', he, hmax, hcur, hbp⟩ := WindowManager.process_bytes_spec w n
  rw [he]
  simp only
  omega

theorem wmi_opened (n : Int) : ∀ w, WMI w → WMI (w.window_opened n).2 := by
  intro w h
  unfold WMI at *
  rw [WindowManager.window_opened_eq]
  split <;> simp only <;> omega

theorem keeps_wi (f : WindowManager → WRes) (hf : ∀ w, WMI w → WMI (f w).2) : Keeps WI (onConnWM f) :=
  .of_state fun c h => by
    have := hf c.inWM h
    unfold onConnWM
    split <;> (rename_i heq; rw [heq] at this; exact this)

theorem prims_WI : ApiPrims WI where
  consumed n hn := keeps_wi _ (wmi_consumed n hn)
  processed n := keeps_wi _ (wmi_processed n)
  opened n := keeps_wi _ (wmi_opened n)

/-! ### CLOSED is for ever

  No handler and no public call takes the connection state machine out of CLOSED: the generated table is absorbing
  there, and nothing but `process_input` writes the state. -/

def ST (c : Conn) : Prop := c.cstate = .CLOSED

theorem prims_ST : ApiPrims ST where
  connInput := Keeps.connInput_closed

/-! ### the high-water marks of the stream ids

  `highest_outbound_stream_id` is 0 or an id of this endpoint's parity, never above 2^31-1; `highest_inbound_stream_id`
  is 0 or an id of the peer's parity (so `get_next_available_stream_id` always answers with a fresh id of the right
  parity, or refuses: C09_next has its premise in every reachable state).  Three places write the marks:
  `_begin_new_stream` (after its three checks), `_refuse_pushed_stream` (an id of the peer's parity above the mark)
  and the restoring branch of `send_headers`. -/

section
/-- the parity of the ids an endpoint opens: clients odd, servers even -/
def parOf (cl : Bool) : Int := if cl then 1 else 0

/-- the high-water marks are in order (for an endpoint whose role is `cl`, which never changes) -/
def MK (cl : Bool) (c : Conn) : Prop :=
  c.cfg.client = cl ∧
  (c.highestOut = 0 ∨ (c.highestOut % 2 = parOf cl ∧ 0 < c.highestOut)) ∧ c.highestOut ≤ 2147483647 ∧
  (c.highestIn = 0 ∨ (c.highestIn % 2 = 1 - parOf cl ∧ 0 < c.highestIn))

variable {cl : Bool}

theorem mk_nonneg {c : Conn} (h : MK cl c) : 0 ≤ c.highestOut ∧ 0 ≤ c.highestIn := by
  obtain ⟨_, hout, _, hin⟩ := h
  constructor
  · rcases hout with h1 | h1 <;> omega
  · rcases hin with h1 | h1 <;> omega

/-- the parity of an id, by the direction the endpoint sorts it into -/
theorem mk_parity {c : Conn} {sid : Int} (hcl : c.cfg.client = cl) (ob : Bool) (h : streamIdIsOutbound c sid = ob) :
    sid % 2 = if ob then parOf cl else 1 - parOf cl := by
  unfold streamIdIsOutbound at h
  rw [hcl] at h
  unfold parOf
  cases cl <;> cases ob <;> simp only [if_true, if_false, Bool.false_eq_true, beq_iff_eq, beq_eq_false_iff_ne, ne_eq] at h ⊢ <;> omega

variable {E : Exc → Conn → Prop} in
theorem pm_putStream {Q : Unit → Conn → Prop} (sid : Int) (st : Stream) (c : Conn) (h : (MK cl) c)
    (hq : ∀ c', (MK cl) c' → Q () c') : wp (putStream sid st) Q E c :=
  hq _ ((Keeps.putStream_of (P := MK cl) (fun _ _ h => h) sid st).state c h)

theorem prims_MK : ApiPrims (MK cl) where
  beginNewStream := Keeps.beginNewStream_of
    (fun c sid _ _ h ho hlt hle => by
      rw [putStream_eq]
      have h0 := mk_nonneg h
      obtain ⟨hcl, _, _, hin⟩ := h
      exact ⟨hcl, .inr ⟨by simpa using mk_parity hcl true ho, by show 0 < sid; omega⟩, hle, hin⟩)
    (fun c sid _ _ h ho hlt _ => by
      rw [putStream_eq]
      have h0 := mk_nonneg h
      obtain ⟨hcl, hout, hmax, _⟩ := h
      exact ⟨hcl, hout, hmax, .inr ⟨by simpa using mk_parity hcl false ho, by show 0 < sid; omega⟩⟩)
  refusePushedStream := Keeps.refusePushedStream_of fun c p h ho hlt => by
    have h0 := mk_nonneg h
    obtain ⟨hcl, hout, hmax, _⟩ := h
    exact ⟨hcl, hout, hmax, .inr ⟨by simpa using mk_parity hcl false ho, by show 0 < p; omega⟩⟩
  restore := fun c0 c _ h0 h => ⟨h.1, h0.2.1, h0.2.2.1, h.2.2.2⟩
end

/-! ### the marks never go down

  Stream ids are never handed out twice, and an id the peer has used stays used (`GE lo li`: the marks are at least
  `lo` / `li`).  The one place that lowers a mark — `send_headers` taking a refused request back — lowers it to what
  it was when the call began. -/

section
def GE (lo li : Int) (c : Conn) : Prop := lo ≤ c.highestOut ∧ li ≤ c.highestIn

variable {lo li : Int}

variable {E : Exc → Conn → Prop} in
theorem pg_putStream {Q : Unit → Conn → Prop} (sid : Int) (st : Stream) (c : Conn) (h : (GE lo li) c)
    (hq : ∀ c', (GE lo li) c' → Q () c') : wp (putStream sid st) Q E c :=
  hq _ ((Keeps.putStream_of (P := GE lo li) (fun _ _ h => h) sid st).state c h)

theorem prims_GE : ApiPrims (GE lo li) where
  beginNewStream := Keeps.beginNewStream_of
    (fun c sid _ _ h _ hlt _ => by rw [putStream_eq]; exact ⟨by show lo ≤ sid; have := h.1; omega, h.2⟩)
    (fun c sid _ _ h _ hlt _ => by rw [putStream_eq]; exact ⟨h.1, by show li ≤ sid; have := h.2; omega⟩)
  refusePushedStream := Keeps.refusePushedStream_of fun c p h _ hlt => ⟨h.1, by show li ≤ p; have := h.2; omega⟩
  restore := fun c0 c _ h0 h => ⟨h0.1, h.2⟩
end

end H2
