/-
  The backlog of a header block under assembly (`FrameBuffer._headers_buffer`) never holds more than
  CONTINUATION_BACKLOG frames — in every state, also after the connection error that an overlong block raises (before
  the repair D49 the refused frame was appended first, so a peer that kept sending CONTINUATION frames to an
  application that kept calling `receive_data` grew the list without bound).

  `receive_data` changes the backlog through `_update_header_buffer` only (`receiveData_fb`).
-/
import H2.Proofs.RecvAppend
namespace H2
open H2.Gen H2.Conn FrameBuffer

def HbCap (hb : List Frame) : Prop := (hb.length : Int) ≤ CONTINUATION_BACKLOG

def HC (c : Conn) : Prop := HbCap c.fb.headersBuffer

theorem stepHeaderBuffer_cap (hb : List Frame) (f : RFrame) (h : HbCap hb) :
    HbCap (FrameBuffer.stepHeaderBuffer hb f).2 := by
  unfold HbCap at *
  rcases stepHeaderBuffer_cases hb f with h' | ⟨_, h'⟩ | ⟨_, _, h'⟩ | ⟨_, hlt, h'⟩ | ⟨_, _, _, _, h', _⟩ <;> rw [h']
  · exact h
  · exact (by decide : (0 : Int) ≤ CONTINUATION_BACKLOG)
  · exact (by decide : (1 : Int) ≤ CONTINUATION_BACKLOG)
  · simp only [List.length_append, List.length_singleton, Int.natCast_add]; omega
  · exact (by decide : (0 : Int) ≤ CONTINUATION_BACKLOG)

theorem receiveData_hc (d : Bytes) (c : Conn) (h : HC c) : HC (receiveData d c).2 :=
  receiveData_fb (fun fb => HbCap fb.headersBuffer) (fun _ _ _ ha h => by rw [addData_headersBuffer ha]; exact h)
    (fun _ f _ h => stepHeaderBuffer_cap _ f h) (fun _ _ h => h) d c h

end H2
