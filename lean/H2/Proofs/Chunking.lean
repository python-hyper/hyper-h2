/-
  The frame iterator does not care where the byte stream was cut (C21).  One step, `next1`, looks at the bytes (`peel`:
  not enough yet, a refusal, or a frame and the number of bytes it took) and hands the frame to the header-block backlog
  (`next1_eq`); what `peel` decides it decides the same way when more bytes follow.  `nxt` is the iterator with the fuel
  `receive_data` gives it; `nxt_more`: bytes appended behind the buffer change nothing until it stops for want of data.
  Also here, being about the frame buffer alone: what `_update_header_buffer` does to the backlog
  (`stepHeaderBuffer_cases`).
-/
import H2.Model.FrameBuffer

namespace H2
open H2.Gen

namespace FrameBuffer

def more (fb : FrameBuffer) (x : Bytes) : FrameBuffer := { fb with data := fb.data ++ x }

@[simp] theorem more_nil (fb : FrameBuffer) : fb.more [] = fb := by simp [more]
@[simp] theorem more_data (fb : FrameBuffer) (x : Bytes) : (fb.more x).data = fb.data ++ x := rfl
@[simp] theorem more_max (fb : FrameBuffer) (x : Bytes) : (fb.more x).maxFrameSize = fb.maxFrameSize := rfl
@[simp] theorem more_hb (fb : FrameBuffer) (x : Bytes) : (fb.more x).headersBuffer = fb.headersBuffer := rfl
@[simp] theorem more_pre (fb : FrameBuffer) (x : Bytes) : (fb.more x).preamble = fb.preamble := rfl
theorem more_more (fb : FrameBuffer) (x y : Bytes) : (fb.more x).more y = fb.more (x ++ y) := by
  simp [more, List.append_assoc]

theorem updateHeaderBuffer_more (fb : FrameBuffer) (f : RFrame) (x : Bytes) :
    updateHeaderBuffer (fb.more x) f = ((updateHeaderBuffer fb f).1, (updateHeaderBuffer fb f).2.more x) := rfl

theorem updateHeaderBuffer_data (fb : FrameBuffer) (f : RFrame) : (updateHeaderBuffer fb f).2.data = fb.data := rfl

/-- what `next1` makes of the buffered bytes: not enough yet, a refusal, or a frame and the number of bytes it took -/
def peel (data : Bytes) (max : Int) : Except Exc (Option (RFrame × Nat)) :=
  if data.length < 9 then .ok none else
  match parseFrameHeader (data.take 9) with
  | .error _ => .error (mkExc .ProtocolError)
  | .ok h =>
    if data.length < h.length + 9 then .ok none else
    if (h.length : Int) > max then .error (mkExc .FrameTooLargeError) else
    if h.type = 4 && hasBit h.flags 1 && h.length != 0 then .error (mkExc .FrameDataMissingError) else
    match parseBody h ((data.drop 9).take h.length) with
    | .error .invalidData => .error (mkExc .ProtocolError)
    | .error .invalidFrame => .error (mkExc .FrameDataMissingError)
    | .error .invalidPadding => .error (.py (.Other "InvalidPaddingError"))
    | .ok f => .ok (some (f, 9 + h.length))

/-- the iterator's verdict on what the backlog made of a frame: never "not enough yet" -/
def toNext : Except Exc (Option RFrame) → Except Exc Next
  | .error e => .error e
  | .ok (some f) => .ok (.frame f)
  | .ok none => .ok .skip

theorem toNext_ne_none (r : Except Exc (Option RFrame)) : toNext r ≠ .ok .none := by
  cases r with
  | error e => simp [toNext]
  | ok o => cases o <;> simp [toNext]

theorem next1_eq (fb : FrameBuffer) :
    next1 fb = (match peel fb.data fb.maxFrameSize with
      | .error e => (.error e, fb)
      | .ok none => (.ok .none, fb)
      | .ok (some (f, k)) =>
        (toNext (stepHeaderBuffer fb.headersBuffer f).1,
          { fb with data := fb.data.drop k, headersBuffer := (stepHeaderBuffer fb.headersBuffer f).2 })) := by
  unfold next1 peel updateHeaderBuffer
  split
  · rfl
  cases parseFrameHeader (fb.data.take 9) with
  | error e => rfl
  | ok h =>
    dsimp only
    split
    · rfl
    split
    · rfl
    split
    · rfl
    cases parseBody h ((fb.data.drop 9).take h.length) with
    | error e => cases e <;> rfl
    | ok f =>
      dsimp only
      cases stepHeaderBuffer fb.headersBuffer f with
      | mk r hb =>
        cases r with
        | error e => rfl
        | ok o => cases o <;> rfl

theorem peel_frame {d : Bytes} {m : Int} {f : RFrame} {k : Nat} (h : peel d m = .ok (some (f, k))) :
    (9 ≤ k ∧ k ≤ d.length) ∧ ∃ hd, parseBody hd ((d.drop 9).take hd.length) = .ok f := by
  unfold peel at h
  split at h
  · cases h
  split at h
  · cases h
  rename_i hd _
  split at h
  · cases h
  split at h
  · cases h
  split at h
  · cases h
  split at h <;> cases h
  exact ⟨by omega, hd, ‹_›⟩

theorem peel_more {d : Bytes} {m : Int} {r : Except Exc (Option (RFrame × Nat))} (x : Bytes) (h : peel d m = r)
    (hr : r ≠ .ok none) : peel (d ++ x) m = r := by
  subst h
  unfold peel at hr ⊢
  by_cases h9 : d.length < 9
  · simp [h9] at hr
  · have h9' : ¬ ((d ++ x).length < 9) := by simp; omega
    have htake : (d ++ x).take 9 = d.take 9 := List.take_append_of_le_length (by omega)
    simp only [h9, h9', if_false, htake] at hr ⊢
    cases hh : parseFrameHeader (d.take 9) with
    | error e => rfl
    | ok h =>
      simp only [hh] at hr ⊢
      by_cases hlen : d.length < h.length + 9
      · simp [hlen] at hr
      · have hlen' : ¬ ((d ++ x).length < h.length + 9) := by simp; omega
        have hbody : ((d ++ x).drop 9).take h.length = (d.drop 9).take h.length := by
          rw [List.drop_append_of_le_length (by omega), List.take_append_of_le_length (by simp; omega)]
        simp only [hlen, hlen', if_false, hbody]

/-- a step writes the frame buffer in one way only: bytes leave the front and a frame goes to `_update_header_buffer` -/
theorem next1_inv {P : FrameBuffer → Prop} {fb : FrameBuffer} (h : P fb)
    (hstep : ∀ f k, P { fb with data := fb.data.drop k, headersBuffer := (stepHeaderBuffer fb.headersBuffer f).2 }) :
    P (next1 fb).2 := by
  rw [next1_eq]
  split
  · exact h
  · exact h
  · exact hstep _ _

theorem next1_more {fb fb' : FrameBuffer} {r : Except Exc Next} (x : Bytes) (h : next1 fb = (r, fb'))
    (hr : r ≠ .ok .none) : next1 (fb.more x) = (r, fb'.more x) := by
  rw [next1_eq] at h
  rw [next1_eq (fb.more x)]
  simp only [more_data, more_max, more_hb]
  split at h
  · rename_i hp; cases h; rw [peel_more x hp nofun]
  · cases h; exact absurd rfl hr
  · rename_i hp
    cases h
    rw [peel_more x hp nofun]
    simp only [List.drop_append_of_le_length (peel_frame hp).1.2]
    rfl

theorem next1_shrinks {fb fb' : FrameBuffer} {n : Next} (h : next1 fb = (.ok n, fb')) (hn : n ≠ .none) :
    fb'.data.length + 9 ≤ fb.data.length := by
  rw [next1_eq] at h
  split at h
  · cases h
  · cases h; exact absurd rfl hn
  · rename_i hp
    injection h with _ h
    subst h
    have := (peel_frame hp).1
    simp only [List.length_drop]
    omega

theorem next1_none_same {fb fb' : FrameBuffer} (h : next1 fb = (.ok .none, fb')) : fb' = fb := by
  rw [next1_eq] at h
  split at h
  · cases h
  · cases h; rfl
  · exact absurd (congrArg Prod.fst h) (toNext_ne_none _)

theorem next_succ (fuel : Nat) (fb : FrameBuffer) :
    next (fuel + 1) fb =
      (match next1 fb with
       | (.error e, fb) => (.error e, fb)
       | (.ok .none, fb) => (.ok none, fb)
       | (.ok (.frame f), fb) => (.ok (some f), fb)
       | (.ok .skip, fb) => next fuel fb) := rfl

/-- the fuel of `next` is irrelevant once it covers the buffered bytes -/
theorem next_fuel (f1 f2 : Nat) (fb : FrameBuffer) (h1 : fb.data.length < 9 * f1) (h2 : fb.data.length < 9 * f2) :
    next f1 fb = next f2 fb := by
  induction f1 generalizing f2 fb with
  | zero => omega
  | succ n ih =>
    cases f2 with
    | zero => omega
    | succ m =>
      rw [next_succ, next_succ]
      split
      · rfl
      · rfl
      · rfl
      · rename_i fb' h; have := next1_shrinks h nofun; exact ih m fb' (by omega) (by omega)

/-- `__next__` with the fuel `receive_data` gives it -/
def nxt (fb : FrameBuffer) : Except Exc (Option RFrame) × FrameBuffer := next (fb.data.length + 1) fb

theorem nxt_eq (fb : FrameBuffer) :
    nxt fb = (match next1 fb with
       | (.error e, fb) => (.error e, fb)
       | (.ok .none, fb) => (.ok none, fb)
       | (.ok (.frame f), fb) => (.ok (some f), fb)
       | (.ok .skip, fb) => nxt fb) := by
  unfold nxt
  rw [next_succ]
  split
  · rfl
  · rfl
  · rfl
  · rename_i fb' h; have := next1_shrinks h nofun; exact next_fuel _ _ fb' (by omega) (by omega)

theorem next_shrinks {f : Nat} {fb fb' : FrameBuffer} {rf : RFrame} (h : next f fb = (.ok (some rf), fb')) :
    fb'.data.length + 9 ≤ fb.data.length := by
  induction f generalizing fb with
  | zero => cases h
  | succ n ih =>
    rw [next_succ] at h
    split at h
    · cases h
    · cases h
    · rename_i h1; cases h; exact next1_shrinks h1 nofun
    · rename_i h1; have := next1_shrinks h1 nofun; have := ih h; omega

theorem nxt_more (x : Bytes) (fb : FrameBuffer) :
    nxt (fb.more x) = (match nxt fb with
      | (.ok none, fb') => nxt (fb'.more x)
      | (r, fb') => (r, fb'.more x)) := by
  -- induction on the number of buffered bytes; every swallowed frame takes nine of them
  induction hn : fb.data.length using Nat.strongRecOn generalizing fb with
  | _ n ih =>
    rw [nxt_eq fb]
    cases h1 : next1 fb with
    | mk r fb1 =>
      cases r with
      | error e => rw [nxt_eq, next1_more x h1 nofun]
      | ok o => cases o with
        | none => rw [next1_none_same h1]
        | frame f => rw [nxt_eq, next1_more x h1 nofun]
        | skip =>
          have := next1_shrinks h1 nofun
          rw [nxt_eq (fb.more x), next1_more x h1 nofun]
          exact ih _ (by omega) fb1 rfl

/-- the iterator promises what each of its steps promises: frames satisfy `G`, errors `N`, and `P` holds again -/
theorem next_rule {P : FrameBuffer → Prop} {G : RFrame → Prop} {N : Exc → Prop}
    (h1 : ∀ fb, P fb →
      (∀ rf fb', next1 fb = (.ok (.frame rf), fb') → G rf) ∧
      (∀ e fb', next1 fb = (.error e, fb') → N e) ∧
      P (next1 fb).2) (fuel : Nat) (fb : FrameBuffer) (h : P fb) :
    (∀ rf fb', next fuel fb = (.ok (some rf), fb') → G rf) ∧
    (∀ e fb', next fuel fb = (.error e, fb') → N e) ∧
    P (next fuel fb).2 := by
  induction fuel generalizing fb with
  | zero => exact ⟨fun _ _ h => (by cases h), fun _ _ h => (by cases h), h⟩
  | succ n ih =>
    rw [next_succ]
    have h1 := h1 fb h
    cases hn : next1 fb with
    | mk r fb1 =>
      rw [hn] at h1
      cases r with
      | error e => exact ⟨fun _ _ h => (by cases h), fun _ _ h => (by cases h; exact h1.2.1 e fb1 rfl), h1.2.2⟩
      | ok o =>
        cases o with
        | none => exact ⟨fun _ _ h => (by cases h), fun _ _ h => (by cases h), h1.2.2⟩
        | frame f => exact ⟨fun _ _ h => (by cases h; exact h1.1 f fb1 rfl), fun _ _ h => (by cases h), h1.2.2⟩
        | skip => exact ih fb1 h1.2.2

theorem next_inv (P : FrameBuffer → Prop)
    (hstep : ∀ fb f k, P fb →
      P { fb with data := fb.data.drop k, headersBuffer := (stepHeaderBuffer fb.headersBuffer f).2 })
    (fuel : Nat) (fb : FrameBuffer) (h : P fb) : P (next fuel fb).2 :=
  (next_rule (P := P) (G := fun _ => True) (N := fun _ => True)
    (fun fb h => ⟨fun _ _ _ => trivial, fun _ _ _ => trivial, next1_inv h fun f k => hstep fb f k h⟩) fuel fb h).2.2

end FrameBuffer

/-- the header-block backlog starts with the HEADERS / PUSH_PROMISE frame that opened the block -/
def HbOk (hb : List Frame) : Prop :=
  match hb with
  | [] => True
  | .headers .. :: _ => True
  | .pushPromise .. :: _ => True
  | _ => False

/-- the five outcomes of `_update_header_buffer`: refused (backlog kept), passed through, a block opened, a
    CONTINUATION appended below the cap, a block completed (the first frame with the joined block and END_HEADERS) -/
theorem stepHeaderBuffer_cases (hb : List Frame) (f : RFrame) :
    FrameBuffer.stepHeaderBuffer hb f = (.error (mkExc .ProtocolError), hb) ∨
    (hb = [] ∧ FrameBuffer.stepHeaderBuffer hb f = (.ok (some f), [])) ∨
    (hb = [] ∧ HbOk [f.frame] ∧ FrameBuffer.stepHeaderBuffer hb f = (.ok none, [f.frame])) ∨
    (hb ≠ [] ∧ (hb.length : Int) < CONTINUATION_BACKLOG ∧
      FrameBuffer.stepHeaderBuffer hb f = (.ok none, hb ++ [f.frame])) ∨
    (∃ first rest g, hb = first :: rest ∧ FrameBuffer.stepHeaderBuffer hb f = (.ok (some { frame := g }), []) ∧
      (g = first ∨ (∃ s blk es pad prio, g = .headers s blk es true pad prio) ∨
        ∃ s p blk pad, g = .pushPromise s p blk true pad)) := by
  -- named before it is unfolded: the body then stands once, in `hs`, and not five times in the goal
  generalize hs : FrameBuffer.stepHeaderBuffer hb f = r
  unfold FrameBuffer.stepHeaderBuffer at hs
  cases hb with
  | nil =>
    dsimp only at hs
    split at hs
    · exact .inr (.inr (.inl ⟨rfl, by rename_i h; rw [h]; trivial, hs.symm⟩))
    · exact .inr (.inr (.inl ⟨rfl, by rename_i h; rw [h]; trivial, hs.symm⟩))
    · exact .inr (.inl ⟨rfl, hs.symm⟩)
  | cons first rest =>
    dsimp only at hs
    split at hs
    · split at hs
      · exact .inl hs.symm
      split at hs
      · exact .inl hs.symm
      split at hs
      · refine .inr (.inr (.inr (.inr ⟨first, rest, _, rfl, hs.symm, ?_⟩)))
        split
        · exact .inr (.inl ⟨_, _, _, _, _, rfl⟩)
        · exact .inr (.inr ⟨_, _, _, _, rfl⟩)
        · exact .inl rfl
      · rename_i hlen _
        exact .inr (.inr (.inr (.inl ⟨nofun, Int.not_le.1 hlen, hs.symm⟩)))
    · exact .inl hs.symm

end H2
