/-
  What `stepShape` does, said once: the state component follows the table's target column (a refusal
  closes the stream), side effects never touch the state, and a refusal changes nothing but `state`
  and `closedBy`.  Facts about states alone are then read off the 7 × 19 table, not off 1 680 shapes.
-/
import H2.Model.StreamFSM

namespace H2
open H2.Gen

/-- does the stream state machine accept input `i` in shape `sh` -/
def okStep (sh : Shape) (i : StreamInputs) : Bool :=
  match (stepShape sh i).1 with
  | .ok _ => true
  | _ => false

/-- the target column of the table; an input the table refuses closes the stream -/
def tgt (st : StreamState) (i : StreamInputs) : StreamState :=
  match streamTable st i with
  | none => .CLOSED
  | some (_, t) => t

/-- what `process_input` makes of a side effect's result: an `assert` that fires is a ProtocolError -/
def EffRes.toProc : EffRes → ProcRes
  | .ok evs => .ok evs
  | .proto | .assertion => .proto
  | .streamClosed w => .streamClosed w

/-- everything a side effect can answer, whatever the flags -/
def effRes : SideEffect → List ProcRes
  | .request_sent => [.ok [.RequestSent]]
  | .response_sent => [.proto, .ok [.ResponseSent], .ok [.TrailersSent]]
  | .request_received => [.proto, .ok [.RequestReceived]]
  | .response_received => [.proto, .ok [.ResponseReceived], .ok [.TrailersReceived]]
  | .data_received => [.proto, .ok [.DataReceived]]
  | .window_updated => [.ok [.WindowUpdated]]
  | .stream_half_closed | .stream_ended => [.ok [.StreamEnded]]
  | .stream_reset => [.ok [.StreamReset]]
  | .send_new_pushed_stream | .recv_new_pushed_stream | .send_alt_svc => [.proto, .ok []]
  | .send_push_promise => [.proto, .ok [.PushedRequestSent]]
  | .recv_push_promise => [.proto, .ok [.PushedStreamReceived]]
  | .send_end_stream | .send_reset_stream => [.ok []]
  | .reset_stream_on_error => [.streamClosed true]
  | .recv_on_closed_stream | .send_on_closed_stream => [.streamClosed false]
  | .recv_push_on_closed_stream => [.proto, .streamClosed false]
  | .send_push_on_closed_stream => [.proto]
  | .send_informational_response => [.proto, .ok [.ResponseSent]]
  | .recv_informational_response => [.proto, .ok [.InformationalResponseReceived]]
  | .recv_alt_svc => [.ok [], .ok [.AlternativeServiceAvailable]]

/-- a side effect answers with one of `effRes`; it either succeeds and leaves the state alone, or raises and leaves
    every field but `closedBy` alone (`reset_stream_on_error` sets that one) -/
theorem runEffect_cases (e : SideEffect) (s : Shape) :
    (runEffect e s).1.toProc ∈ effRes e ∧
    ((∃ evs s', runEffect e s = (.ok evs, s') ∧ s'.state = s.state) ∨
     (∀ evs, (runEffect e s).1 ≠ .ok evs) ∧ ∃ cb, (runEffect e s).2 = { s with closedBy := cb }) := by
  cases e <;> simp only [runEffect] <;> (repeat' split) <;> refine ⟨by simp [effRes, EffRes.toProc], ?_⟩ <;>
    first
    | exact .inl ⟨_, _, rfl, rfl⟩
    | exact .inr ⟨(fun _ h => nomatch h), _, rfl⟩

/-- everything a row of the table can answer, whatever the flags: the specification of `stepShape` by (state, input)
    alone.  A fact that holds of every entry holds of every step (`step_res`), and is checked on 7 × 19 rows. -/
def rowRes (st : StreamState) (i : StreamInputs) : List ProcRes :=
  match streamTable st i with
  | none => [.proto]
  | some (none, _) => [.ok []]
  | some (some e, _) => effRes e

/-- a step answers with one of the results of its row; accepted, it lands in the table's target state; refused, it
    closes the stream and changes nothing else but `closedBy` -/
theorem stepShape_cases (s : Shape) (i : StreamInputs) :
    (stepShape s i).1 ∈ rowRes s.state i ∧
    ((∃ evs s', stepShape s i = (.ok evs, s') ∧ s'.state = tgt s.state i) ∨
     (okStep s i = false ∧ ∃ cb, (stepShape s i).2 = { s with state := .CLOSED, closedBy := cb })) := by
  unfold okStep stepShape tgt rowRes
  rcases streamTable s.state i with _ | ⟨_ | e, t⟩
  · exact ⟨List.mem_singleton.mpr rfl, .inr ⟨rfl, _, rfl⟩⟩
  · exact ⟨List.mem_singleton.mpr rfl, .inl ⟨_, _, rfl, rfl⟩⟩
  · dsimp only
    obtain ⟨hm, h⟩ := runEffect_cases e { s with state := t }
    generalize runEffect e { s with state := t } = p at hm h ⊢
    obtain ⟨r, s'⟩ := p
    refine ⟨by cases r <;> exact hm, ?_⟩
    rcases h with ⟨evs, s'', h, hs⟩ | ⟨hno, cb, h⟩
    · cases h; exact .inl ⟨_, _, rfl, hs⟩
    · simp only at hno h
      subst h
      cases r <;> first | exact absurd rfl (hno _) | exact .inr ⟨rfl, cb, rfl⟩

theorem step_res {p : ProcRes → Bool} {s : Shape} {i : StreamInputs} (hp : (rowRes s.state i).all p = true) :
    p (stepShape s i).1 = true :=
  List.all_eq_true.mp hp _ (stepShape_cases s i).1

theorem step_res_ok {p : ProcRes → Bool} {s s' : Shape} {i : StreamInputs} {evs : List SEv}
    (hp : (rowRes s.state i).all p = true) (hs : stepShape s i = (.ok evs, s')) : p (.ok evs) = true := by
  have h := step_res hp
  rwa [hs] at h

def ProcRes.refused : ProcRes → Bool
  | .ok _ => false
  | _ => true

/-- the rows that refuse whatever the flags say: no row at all, or an effect that only raises -/
def rowRefuses (st : StreamState) (i : StreamInputs) : Bool := (rowRes st i).all ProcRes.refused

theorem okStep_false_of_rowRefuses {sh : Shape} {i : StreamInputs} (h : rowRefuses sh.state i = true) :
    okStep sh i = false := by
  have := step_res h
  unfold okStep
  revert this
  cases (stepShape sh i).1 <;> first | exact fun _ => rfl | exact nofun

/-- two inputs in a row: a property of results that holds along the row of the second input in the target state of
    every row of the first that can accept, holds of the second step after an accepted first -/
theorem step_then_res {p : ProcRes → Bool} {s s' : Shape} {i j : StreamInputs} {evs : List SEv}
    (h : (rowRefuses s.state i || (rowRes (tgt s.state i) j).all p) = true) (hs : stepShape s i = (.ok evs, s')) :
    p (stepShape s' j).1 = true := by
  have hok : okStep s i = true := by simp [okStep, hs]
  cases hr : rowRefuses s.state i
  · rw [hr, Bool.false_or] at h
    rcases (stepShape_cases s i).2 with ⟨_, _, h', hst⟩ | ⟨hno, _⟩
    · rw [hs] at h'; cases h'; exact step_res (hst ▸ h)
    · rw [hno] at hok; cases hok
  · rw [okStep_false_of_rowRefuses hr] at hok; cases hok

theorem stepShape_state (s : Shape) (i : StreamInputs) :
    (stepShape s i).2.state = tgt s.state i ∨ (stepShape s i).2.state = .CLOSED := by
  rcases (stepShape_cases s i).2 with ⟨_, _, h, hs⟩ | ⟨_, _, h⟩
  · exact .inl (by rw [h]; exact hs)
  · exact .inr (by rw [h])

theorem Gen.StreamState.mem_all (s : StreamState) : s ∈ StreamState.all := by cases s <;> simp [StreamState.all]
theorem Gen.StreamInputs.mem_all (s : StreamInputs) : s ∈ StreamInputs.all := by cases s <;> simp [StreamInputs.all]

theorem forall_state_input {P : StreamState → StreamInputs → Bool}
    (h : (StreamState.all.all fun s => StreamInputs.all.all fun i => P s i) = true) (s : StreamState) (i : StreamInputs) :
    P s i = true := by
  simp only [List.all_eq_true] at h
  exact h s (StreamState.mem_all s) i (StreamInputs.mem_all i)

/-- the one row that ends in IDLE is the idle stream ignoring an ALTSVC frame -/
theorem tgt_idle : ∀ st i, (tgt st i != .IDLE || (st == .IDLE && i == .RECV_ALTERNATIVE_SERVICE)) = true :=
  forall_state_input (by decide)

theorem tgt_closed (i : StreamInputs) : tgt .CLOSED i = .CLOSED := by cases i <;> rfl

/-- a stream is idle after a step only if it was idle and the input was RECV_ALTERNATIVE_SERVICE:
    every "has left IDLE for good" fact is this one -/
theorem stepShape_idle {s : Shape} {i : StreamInputs} (h : (stepShape s i).2.state = .IDLE) :
    s.state = .IDLE ∧ i = .RECV_ALTERNATIVE_SERVICE := by
  rcases stepShape_state s i with h' | h' <;> rw [h'] at h
  · have := tgt_idle s.state i
    simpa [h] using this
  · cases h

end H2
