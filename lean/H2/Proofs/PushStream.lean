/-
  `H2Connection.push_stream` at connection level: what it writes, which exceptions it raises, what it leaves alone,
  and that the stream object it prepares for the promise never stays behind IDLE.
-/
import H2.Proofs.SendHeaders
namespace H2
open H2.Gen H2.Conn

/-! ### `H2Stream.push_stream_in_band` in full -/

theorem tbl_pushSend_evs {s s' : Shape} {evs : List SEv} (h : s.state ≠ .IDLE)
    (hs : stepShape s .SEND_PUSH_PROMISE = (.ok evs, s')) : evs ≠ [] :=
  evs_of_row (by revert h; cases s.state <;> first | exact fun _ => rfl | exact fun h => absurd rfl h) hs

/-- the PUSH_PROMISE (+ CONTINUATION) frames of one header block, as `push_stream_in_band` returns them -/
def PushFrames (sid related maxOut : Int) (frames : List Frame) : Prop :=
  ∃ blocks : List Bytes, blocks ≠ [] ∧
    frames = mkHeaderFrames (fun b eh => Frame.pushPromise sid related b eh none) sid blocks ∧
    (∀ b ∈ blocks.head?, (b.length : Int) + 4 ≤ maxOut) ∧ (∀ b ∈ blocks.tail, (b.length : Int) ≤ maxOut)

/-- **`H2Stream.push_stream_in_band`**, any stream state, header list and configuration: refused with the HPACK context
    untouched, or exactly one `encode` whose output the PUSH_PROMISE / CONTINUATION frames carry.  On a stream that has
    left IDLE and has a nonzero id (every stream of the table) the only exception is a ProtocolError. -/
theorem stream_pushInBand_all (cfg : Config) (related : Int) (headers : List Header) (s : Stream × Hp)
    (hm : 4 < s.1.maxOutFrame) :
    wp (Stream.pushStreamInBand cfg related headers)
      (fun frames s' => Encoded1 cfg headers s frames s' ∧ PushFrames s.1.sm.sid related s.1.maxOutFrame frames ∧
          s'.1.ident = s.1.ident ∧ s'.1.sm.state ≠ .IDLE)
      (fun e s' => s'.2 = s.2 ∧ s'.1.ident = s.1.ident ∧ s'.1.sm.state ≠ .IDLE ∧
          (s.1.sm.sid ≠ 0 → s.1.sm.state ≠ .IDLE → e.isInstance .ProtocolError = true)) s := by
  unfold Stream.pushStreamInBand
  wps
  -- `rw`, not `unfold`: the second `onStream` is left for `wp_flagsThenBlocks`
  rw [onStream, wp_zoom]
  have hout : ∀ {sh}, (stepShape s.1.sm.sh .SEND_PUSH_PROMISE).2 = sh → sh.state ≠ .IDLE :=
    step_not_idle (.inl nofun)
  refine wp_processInput_rule _ _ (fun events sh hstep => ?_) fun e sh hx _ hsh =>
    ⟨rfl, rfl, hout hsh, fun _ _ => by obtain rfl | ⟨_, rfl⟩ := hx <;> rfl⟩
  have hsh := hout (congrArg Prod.snd hstep)
  wps
  apply ite_intro
  · intro h0
    refine ⟨trivial, rfl, hsh, fun hsid _ => absurd ?_ hsid⟩
    have h0' : ((s.1.withShape sh).sid == 0) = true := h0
    simpa [Stream.sid, Stream.withShape] using h0'
  intro _
  simp only [wp_bind_fn, wp_pure_fn]
  refine wp_flagsThenBlocks cfg headers events 4 (s.1.withShape sh, s.2) hm (by omega)
    (fun blocks hfl hne h1 h2 => ?_) fun e he => ⟨rfl, rfl, hsh, fun _ hni => ?_⟩
  · exact ⟨encoded1_frames cfg headers s _ _ _ blocks (fun _ _ => rfl) hfl, ⟨blocks, hne, rfl, h1, h2⟩, rfl, hsh⟩
  · -- once out of IDLE, the accepted input reports an event
    rw [he fun h => tbl_pushSend_evs hni hstep h]
    rfl

/-! ### `H2Connection.push_stream` -/

theorem pushFrames_fit (sid related mo : Int) (frames : List Frame) (h : PushFrames sid related mo frames)
    (hr : 0 ≤ related ∧ related < 4294967296) :
    ∀ f ∈ frames, f.Fits mo := by
  obtain ⟨blocks, hne, hfr, hs1, hs2⟩ := h
  obtain ⟨b, eh, conts, hmk, hb, hc⟩ := mkHeaderFrames_fit _ sid mo 4 blocks hne hs1 hs2
  rw [hfr, hmk]
  exact List.forall_mem_cons.mpr ⟨pushPromise_fits sid related b eh mo hr hb, hc⟩

theorem wp_processInput_fresh {Q : List SEv → Stream → Prop} {E : Exc → Stream → Prop} {i : StreamInputs}
    {evs : List SEv} (sid mo ow iw : Int) (hi : i ≠ .RECV_ALTERNATIVE_SERVICE)
    (hok : (stepShape ({} : Shape) i).1 = .ok evs)
    (hq : ∀ st', st'.sm.state ≠ .IDLE → st'.ident = (freshStream sid mo ow iw).ident → Q evs st') :
    wp (processInput i) Q E (freshStream sid mo ow iw) := by
  refine wp_processInput_rule i _ (fun evs' sh hstep => ?_) fun _ _ _ hno _ => ?_
  · cases ProcRes.ok.inj ((congrArg Prod.fst hstep).symm.trans hok)
    exact hq _ (step_not_idle (.inl hi) (congrArg Prod.snd hstep)) rfl
  · change okStep ({} : Shape) i = false at hno
    rw [okStep, hok] at hno
    cases hno

/-- `locally_pushed` asserts that the new stream object reports nothing -/
theorem tbl_freshPush : (stepShape ({} : Shape) .SEND_PUSH_PROMISE).1 = .ok [] := rfl

theorem locallyPushed_fresh {Q : List Frame → Stream → Prop} {E : Exc → Stream → Prop} (sid mo ow iw : Int)
    (hq : ∀ st', st'.sm.state ≠ .IDLE → st'.ident = (freshStream sid mo ow iw).ident → Q [] st') :
    wp Stream.locallyPushed Q E (freshStream sid mo ow iw) := by
  unfold Stream.locallyPushed
  wps
  refine wp_processInput_fresh sid mo ow iw nofun tbl_freshPush fun st' hni hid => ?_
  simp only [List.isEmpty_nil, Bool.not_true, Bool.false_eq_true, if_false]
  wps
  exact hq st' hni hid

-- as in Proofs/ApiOk: the unifier must not evaluate the serialisation of concrete frames
attribute [local irreducible] prepareForSending

/-- what C29 and C13 ask of `push_stream` when it returns: one `encode` call (of the normalised list), and the frames
    appended to the history are the PUSH_PROMISE + CONTINUATION frames carrying exactly that block, each within the
    peer's frame size -/
def PushStreamOk (c : Conn) (sid promised : Int) (headers : List Header) : Unit → Conn → Prop :=
  fun _ c' => c'.hp = c.hp.afterEncode (outList c.cfg headers) ∧ Kept c c' ∧
    ∃ frames, c'.sent = c.sent ++ frames ∧ PushFrames sid promised c.maxOutFrame frames ∧
      (frames.filterMap Frame.fragment?).flatten = c.hp.encoded (outList c.cfg headers)

/-- **`H2Connection.push_stream`**, any arguments, any state satisfying the invariants -/
theorem pushStream_spec (sid promised : Int) (headers : List Header) (c : Conn) (hwf : WF c) (hso : SO c) :
    wp (pushStream sid promised headers) (PushStreamOk c sid promised headers) (CallErr c) c := by
  unfold pushStream PushStreamOk CallErr
  wps
  have g00 := InCall.refl promised hso hwf
  obtain ⟨ep, hep⟩ := getItem?_of_ok c.remoteSettings _ (by decide) hwf.1.rs.2.1 hwf.1.rs.2.2
  rw [show c.remoteSettings.enablePush = some ep from hep]
  simp only
  wps
  apply ite_intro
  · intro _; exact ⟨allowed_pErr, trivial, trivial, g00.kept⟩
  intro _
  apply inCall_connInput _ g00
  · intro c1 g1 hct
    have hopen : c1.cstate ≠ .CLOSED := connTable_ne_closed hct ⟨nofun, nofun⟩
    wps
    apply getStreamById_cases
    · intro hhas
      wps
      apply ite_intro
      · intro _; exact g1.refused allowed_pErr
      intro hodd
      refine inCall_beginNewStream false g1 hwf.1 ?_ (fun e hal => g1.refused hal)
      intro c2 g2 heven ⟨ow, iw, hfresh⟩ hold
      -- the parent's id is odd, the promised one even
      have hne : sid ≠ promised := by
        intro hh; subst hh
        simp only [Bool.false_eq_true, if_false] at heven
        simp only [beq_iff_eq] at hodd
        omega
      obtain ⟨_, hlo, hhi, _⟩ := g2.so.1 _ (lookup_mem _ _ _ hfresh)
      wps
      obtain ⟨st, hl⟩ := lookup_of_hasStream c1 sid hhas
      have hl2 := (hold sid hne).trans hl
      rw [wp_withStreamHp, hl2]
      simp only
      obtain ⟨hsid', hsid, hmo, hm5⟩ := g2.stream hwf.1 hl2
      have hstni : st.sm.state ≠ .IDLE := notIdle_lookup (g1.kept.ni hopen) hl
      apply wp_mono (stream_pushInBand_all c.cfg promised headers (st, c2.hp) (Int.lt_trans (by decide) hm5))
      · intro frames s' ⟨henc, hfr, hid, hni⟩
        wps
        have g3 := g2.afterMethod hl2 hid (.inl hni)
        have hl3 : ({ setStream c2 sid s'.1 with hp := s'.2 } : Conn).streams.lookup promised =
            some (freshStream promised c1.maxOutFrame ow iw) :=
          ((lookup_setStream c2 sid s'.1 promised).trans (if_neg (Ne.symm hne))).trans hfresh
        rw [wp_withStream, hl3]
        simp only
        refine locallyPushed_fresh promised c1.maxOutFrame ow iw fun st'' hni2 hid2 => ?_
        rw [List.append_nil]
        simp only at hfr
        rw [hsid', hmo] at hfr
        apply wp_prepare_fits
        · exact pushFrames_fit sid promised c2.maxOutFrame frames hfr ⟨by omega, by omega⟩
        · intro o
          exact ⟨henc.1.trans (by rw [g2.hp]), (g3.opened hl3 hid2 hni2).done _ _ _ _,
            frames, congrArg (· ++ frames) g2.sent, g2.mof ▸ hfr, henc.2.1.trans (by rw [g2.hp])⟩
      · intro e s' ⟨hhp, hid, hni, hinst⟩
        have hinst := hinst hsid hstni
        rw [hinst]
        simp only [if_true]
        have g3 := g2.afterMethod hl2 hid (.inl hni)
        exact ⟨allowed_of_instance _ _ hinst, g2.os, hhp.trans g2.hp, g3.takenBack g3.so.2.2 _⟩
    · intro e hal; exact g1.refused hal
  · intro c1 g1; exact g1.refused allowed_pErr

end H2
