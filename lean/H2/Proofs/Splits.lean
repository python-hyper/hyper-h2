/-
  A property of every element of a FIFO queue together with what is in front of it,
  `∀ pre e post, q = pre ++ e :: post → P pre e`, and the two things that happen to a queue: a new element joins at the
  back, the oldest leaves at the front.  (PairCredit.Inv.pre, PairFsm.Inv.na / nb are of this form.)
-/
namespace H2

theorem split_snoc {α : Type} (q pre post : List α) (i j : α) (h : q ++ [i] = pre ++ j :: post) :
    (∃ post', q = pre ++ j :: post' ∧ post = post' ++ [i]) ∨ (pre = q ∧ j = i ∧ post = []) := by
  induction q generalizing pre with
  | nil =>
    cases pre with
    | nil => simp at h; exact Or.inr ⟨rfl, h.1.symm, h.2⟩
    | cons a t => simp at h
  | cons x xs ih =>
    cases pre with
    | nil =>
      simp only [List.cons_append, List.nil_append, List.cons.injEq] at h
      exact Or.inl ⟨xs, by rw [h.1]; rfl, h.2.symm⟩
    | cons a t =>
      simp only [List.cons_append, List.cons.injEq] at h
      rcases ih t h.2 with ⟨post', h1, h2⟩ | ⟨h1, h2, h3⟩
      · exact Or.inl ⟨post', by rw [h.1, h1]; rfl, h2⟩
      · exact Or.inr ⟨by rw [h.1, h1], h2, h3⟩

/-- an element joins at the back: the old elements keep what they had, the new one has the whole old queue in front -/
theorem forall_split_snoc {α : Type} {P : List α → α → Prop} {q : List α} {x : α}
    (h : ∀ pre e post, q = pre ++ e :: post → P pre e) (hx : P q x) :
    ∀ pre e post, q ++ [x] = pre ++ e :: post → P pre e := by
  intro pre e post hs
  rcases split_snoc q pre post x e hs with ⟨post', h1, _⟩ | ⟨h1, h2, _⟩
  · exact h pre e post' h1
  · rw [h1, h2]; exact hx

/-- the oldest element leaves: every other element had it in front -/
theorem forall_split_tail {α : Type} {P : List α → α → Prop} {q : List α} {x : α} {rest : List α} (hq : q = x :: rest)
    (h : ∀ pre e post, q = pre ++ e :: post → P pre e) :
    ∀ pre e post, rest = pre ++ e :: post → P (x :: pre) e :=
  fun pre e post hs => h (x :: pre) e post (by rw [hq, hs]; rfl)

end H2
